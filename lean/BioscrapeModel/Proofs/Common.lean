import Mathlib.Data.List.GetD
import Mathlib.Data.List.Count
import Mathlib.Algebra.Order.Group.Abs

/-
General facts (lists, arrays, `Except` programs, C-style conditionals) that several properties share.
-/

namespace Bioscrape

theorem getD_map_range {β : Type} (f : ℕ → β) {i n : ℕ} (hi : i < n) (d : β) :
    ((List.range n).map f).getD i d = f i := by
  rw [List.getD_eq_getElem _ _ (by simpa using hi), List.getElem_map, List.getElem_range]

/-- what holds of the default and of every element holds of whatever is read. -/
theorem getD_of_forall {β : Type} {P : β → Prop} (l : List β) (i : Nat) {d : β} (hd : P d) (h : ∀ x ∈ l, P x) :
    P (l.getD i d) := by
  rw [List.getD_eq_getElem?_getD]
  cases hi : l[i]? with
  | none => exact hd
  | some x => exact h x (List.mem_of_getElem? hi)

theorem getD_set {β : Type} (l : List β) (j i : Nat) (a d : β) :
    (l.set j a).getD i d = if j = i ∧ i < l.length then a else l.getD i d := by
  rcases eq_or_ne j i with rfl | hne
  · by_cases h : j < l.length
    · simp [h]
    · simp [h, List.getD_eq_getElem?_getD]
  · simp [hne, List.getD_eq_getElem?_getD, List.getElem?_set_ne hne]

/-- a loop `acc *= g i` multiplies the running product by the product of the `g i`. -/
theorem foldl_mul_map {ι M : Type} [Monoid M] (l : List ι) (g : ι → M) (a : M) :
    l.foldl (fun a i => a * g i) a = a * (l.map g).prod := by
  induction l generalizing a with
  | nil => exact (mul_one a).symm
  | cons i l ih => rw [List.foldl_cons, ih, List.map_cons, List.prod_cons, mul_assoc]

/-- a loop `acc += f x` adds the sum of the `f x` to the running total. -/
theorem foldl_add_eq_add_sum {α ι : Type} [AddMonoid α] (f : ι → α) (l : List ι) (a : α) :
    l.foldl (fun acc x => acc + f x) a = a + (l.map f).sum :=
  foldl_mul_map (M := Multiplicative α) l f a

/-- a `do` block succeeds exactly when its first statement does and the rest succeeds on its result. -/
theorem Except.bind_eq_ok {ε α β : Type} {x : Except ε α} {f : α → Except ε β} {b : β} :
    x >>= f = .ok b ↔ ∃ a, x = .ok a ∧ f a = .ok b := by
  cases x with
  | error e => exact ⟨fun h => (nomatch h), fun ⟨_, h, _⟩ => (nomatch h)⟩
  | ok a => exact ⟨fun h => ⟨a, rfl, h⟩, fun ⟨_, h, hf⟩ => by cases h; exact hf⟩

theorem foldl_push_size {β ι : Type} (l : List ι) (f : Array β → ι → β) (a : Array β) :
    (l.foldl (fun a i => a.push (f a i)) a).size = a.size + l.length := by
  induction l generalizing a with
  | nil => rfl
  | cons x rest ih => rw [List.foldl_cons, ih, Array.size_push, List.length_cons, Nat.add_assoc, Nat.add_comm 1]

/-- a fold whose step raises a count `φ` by one exactly on the element `s` raises it by the number of `s` in the list. -/
theorem foldl_count_step {σ κ : Type} [DecidableEq κ] (φ : σ → ℕ) (step : σ → κ → σ) (s : κ)
    (h : ∀ sp a, φ (step sp a) = φ sp + if a = s then 1 else 0) (R : List κ) (sp : σ) :
    φ (R.foldl step sp) = φ sp + R.count s := by
  induction R generalizing sp with
  | nil => rfl
  | cons a R ih =>
    rw [List.foldl_cons, ih, h, List.count_cons, Nat.add_assoc, Nat.add_comm (R.count s)]
    simp only [beq_iff_eq]

/-- `if d < 0 then -d else d`, the way the Cython code takes an absolute value. -/
theorem ite_neg_eq_abs {α : Type} [AddCommGroup α] [LinearOrder α] [IsOrderedAddMonoid α] (d : α) :
    (if d < 0 then -d else d) = |d| := by
  split
  · rename_i h; exact (abs_of_neg h).symm
  · rename_i h; exact (abs_of_nonneg (not_lt.mp h)).symm

end Bioscrape
