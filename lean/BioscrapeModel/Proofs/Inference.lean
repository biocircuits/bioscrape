import Mathlib.Algebra.Order.Field.Basic
import Mathlib.Data.List.Induction
import BioscrapeModel.Proofs.Common
import BioscrapeModel.Model.Inference

/-
What the array operations of `Model/Inference.lean` do entry by entry (row-major flattening, transposing,
reshaping), and the accumulation loops of the likelihood as sums.
-/

namespace Bioscrape

/-! ### numpy arrays as flat row-major lists -/

/-- entry `(m, t)` of an array of rows of length `T` sits at `m * T + t` of its flattening (also past the last
row, where both sides are the default). -/
theorem flatten2_getD {β : Type} (rows : List (List β)) (T m t : Nat) (d : β)
    (hlen : ∀ r ∈ rows, r.length = T) (ht : t < T) :
    (flatten2 rows).getD (m * T + t) d = (rows.getD m []).getD t d := by
  induction rows generalizing m with
  | nil => rfl
  | cons r rest ih =>
    have hr : r.length = T := hlen r List.mem_cons_self
    show (r ++ flatten2 rest).getD _ d = _
    cases m with
    | zero => rw [Nat.zero_mul, Nat.zero_add, List.getD_append _ _ _ _ (hr ▸ ht)]; rfl
    | succ m =>
      rw [Nat.succ_mul, Nat.add_right_comm, ← hr, List.getD_append_right _ _ _ _ (Nat.le_add_left _ _),
        Nat.add_sub_cancel, hr]
      exact ih m fun r' h' => hlen r' (List.mem_cons_of_mem _ h')

/-- transposing the flat `(M, T)` array and reading the result as `(T, M)` at `[t][m]` reads the original at
`[m][t]`. -/
theorem reshapeGet_transposeFlat {β : Type} [Inhabited β] (M T : Nat) (flat : List β) (t m : Nat)
    (ht : t < T) (hm : m < M) :
    reshapeGet M (transposeFlat M T flat) t m = flat.getD (m * T + t) default := by
  have hk : t * M + m < T * M :=
    calc t * M + m < t * M + M := Nat.add_lt_add_left hm _
      _ = (t + 1) * M := (Nat.succ_mul t M).symm
      _ ≤ T * M := Nat.mul_le_mul_right M ht
  rw [reshapeGet, transposeFlat, getD_map_range _ hk, Nat.mul_add_mod_of_lt hm, Nat.mul_comm t M,
    Nat.mul_add_div (Nat.zero_lt_of_lt hm), Nat.div_eq_of_lt hm, Nat.add_zero]

theorem extractFrame_getD {β : Type} [Inhabited β] (f : Frame β) (ms : List String) (T t m : Nat)
    (ht : t < T) (hm : m < ms.length) :
    ((extractFrame f ms T).getD t []).getD m default
      = reshapeGet ms.length (transposeFlat ms.length T (flatten2 (ms.map f.col))) t m := by
  rw [extractFrame, getD_map_range _ ht, getD_map_range _ hm]

/-! ### `set_params` -/

theorem applyDict_concat {α : Type} (c : List α) (d : List (Nat × α)) (kv : Nat × α) :
    applyDict c (d ++ [kv]) = (applyDict c d).set kv.1 kv.2 := by
  simp [applyDict]

theorem applyDict_length {α : Type} (c : List α) (d : List (Nat × α)) : (applyDict c d).length = c.length := by
  induction d using List.reverseRecOn with
  | nil => rfl
  | append_singleton d kv ih => rw [applyDict_concat, List.length_set, ih]

/-! ### the error loops -/

section
variable {α : Type} [Field α] [LinearOrder α] [IsStrictOrderedRing α] [Transc α]

/-- one trajectory's error is added to the running total: `acc + Σ_i Σ_t |data[t][i] − sim[t][idx_i]|^p`. -/
theorem trajError_eq (norm : α) (measIdx : List Nat) (rows data : List (List α)) (nT : Nat) (acc : α) :
    trajError norm measIdx rows data nT acc
      = acc + ((List.range measIdx.length).map (fun i => ((List.range nT).map (fun t =>
          Transc.pow |(data.getD t []).getD i 0 - (rows.getD t []).getD (measIdx.getD i 0) 0| norm)).sum)).sum := by
  simp only [trajError, ite_neg_eq_abs, foldl_add_eq_add_sum]

theorem trajError_acc (norm : α) (measIdx : List Nat) (rows data : List (List α)) (nT : Nat) (acc : α) :
    trajError norm measIdx rows data nT acc = acc + trajError norm measIdx rows data nT 0 := by
  rw [trajError_eq, trajError_eq, zero_add]

end
end Bioscrape
