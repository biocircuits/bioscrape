import Mathlib.Algebra.Order.BigOperators.Group.List
import Mathlib.Tactic.Linarith
import BioscrapeModel.Model.Random

/-
`sample_discrete` chooses the reaction whose cumulative-propensity interval contains `q = u·Λ`.
-/
set_option linter.unusedSectionVars false

namespace Bioscrape

variable {α : Type} [Field α] [LinearOrder α] [IsStrictOrderedRing α]

/-- cumulative sums `c_j = a_0 + … + a_{j-1}`. -/
def cum (a : List α) (j : Nat) : α := (a.take j).sum

/-- the loop of `sample_discrete`, entered at index `i` with running sum `pSum < q ≤ pSum + Σ rest`, stops at the entry
`i + k` whose interval of running sums holds `q`. -/
theorem sampleDiscreteFrom.go_spec (q : α) (rest : List α) (pSum : α) (i : Nat) (hlt : pSum < q) (hle : q ≤ pSum + rest.sum) :
    ∃ k, k < rest.length ∧ sampleDiscreteFrom.go q rest pSum i = (i : Int) + k
      ∧ pSum + (rest.take k).sum < q ∧ q ≤ pSum + (rest.take (k + 1)).sum := by
  induction rest generalizing pSum i with
  | nil => exact absurd hlt (not_lt.mpr (by simpa using hle))
  | cons a r ih =>
    rw [sampleDiscreteFrom.go, if_pos hlt]
    by_cases h : pSum + a < q
    · obtain ⟨k, hk, hgo, h1, h2⟩ := ih (pSum + a) (i + 1) h (by rwa [List.sum_cons, ← add_assoc] at hle)
      refine ⟨k + 1, Nat.succ_lt_succ hk, by rw [hgo]; push_cast; omega, ?_, ?_⟩
      · rwa [List.take_succ_cons, List.sum_cons, ← add_assoc]
      · rwa [List.take_succ_cons, List.sum_cons, ← add_assoc]
    · refine ⟨0, Nat.zero_lt_succ _, ?_, by simpa using hlt, by simpa using not_lt.mp h⟩
      cases r <;> simp [sampleDiscreteFrom.go, h]

/-- **choice interval**: with non-negative weights, `0 < q ≤ Σ a`, the index returned by
`sample_discrete` is the `j` with `c_j < q ≤ c_{j+1}`. -/
theorem sampleDiscrete_interval (a : List α) (q : α) (hpos : ∀ v ∈ a, 0 ≤ v) (h0 : 0 < q) (hle : q ≤ a.sum) :
    ∃ j, j < a.length ∧ sampleDiscreteFrom a q = (j : Int) ∧ cum a j < q ∧ q ≤ cum a (j + 1) := by
  obtain ⟨k, hk, hgo, h1, h2⟩ := sampleDiscreteFrom.go_spec q a 0 0 h0 (by simpa using hle)
  exact ⟨k, hk, by simpa [sampleDiscreteFrom] using hgo, by simpa [cum] using h1, by simpa [cum] using h2⟩

theorem cum_succ (a : List α) (j : Nat) (hj : j < a.length) : cum a (j + 1) = cum a j + a[j] := by
  unfold cum
  rw [List.take_succ_eq_append_getElem hj, List.sum_append]
  simp

theorem cum_mono (a : List α) (hpos : ∀ v ∈ a, 0 ≤ v) (i j : Nat) (hij : i ≤ j) : cum a i ≤ cum a j :=
  (List.take_sublist_take_left hij).sum_le_sum fun v hv => hpos v (List.mem_of_mem_take hv)

/-- the interval determines the index: at most one `j` has `c_j < q ≤ c_{j+1}`. -/
theorem interval_unique (a : List α) (q : α) (hpos : ∀ v ∈ a, 0 ≤ v) (i j : Nat)
    (hi : cum a i < q ∧ q ≤ cum a (i + 1)) (hj : cum a j < q ∧ q ≤ cum a (j + 1)) : i = j := by
  by_contra hne
  rcases Nat.lt_or_gt_of_ne hne with h | h
  · exact absurd (hi.2.trans (cum_mono a hpos (i + 1) j h)) (not_le.mpr hj.1)
  · exact absurd (hj.2.trans (cum_mono a hpos (j + 1) i h)) (not_le.mpr hi.1)

/-- the entry selected has positive weight: its interval `(c_j, c_j + a_j]` holds `q`, so it is not empty. -/
theorem sampleDiscrete_weight_pos (a : List α) (q : α) (hpos : ∀ v ∈ a, 0 ≤ v) (h0 : 0 < q) (hle : q ≤ a.sum) :
    ∃ j, ∃ hj : j < a.length, sampleDiscreteFrom a q = (j : Int) ∧ 0 < a[j] := by
  obtain ⟨k, hk, hsel, h1, h2⟩ := sampleDiscrete_interval a q hpos h0 hle
  rw [cum_succ a k hk] at h2
  exact ⟨k, hk, hsel, pos_of_lt_add_right (h1.trans_le h2)⟩

/-- a reaction with zero propensity is never chosen. -/
theorem zero_weight_not_chosen (a : List α) (q : α) (hpos : ∀ v ∈ a, 0 ≤ v) (h0 : 0 < q) (hle : q ≤ a.sum)
    (j : Nat) (hj : j < a.length) (hz : a[j] = 0) : sampleDiscreteFrom a q ≠ (j : Int) := by
  intro hsel
  obtain ⟨k, hk, hk', hw⟩ := sampleDiscrete_weight_pos a q hpos h0 hle
  obtain rfl : k = j := by exact_mod_cast hk'.symm.trans hsel
  exact hw.ne' hz

theorem arraySum_eq_sum (a : List α) : arraySum a = a.sum := by
  rw [arraySum, List.sum_eq_foldl]

/-- **every uniform in `(0, 1]` selects an entry of positive weight**: never the "none" sentinel `-1`, never an index past
the end, never a reaction that cannot fire. -/
theorem sampleDiscrete_pos (a : List α) (u : α) (hpos : ∀ v ∈ a, 0 ≤ v) (hL : 0 < a.sum) (hu0 : 0 < u) (hu1 : u ≤ 1) :
    ∃ j, ∃ hj : j < a.length, sampleDiscreteFrom a (u * a.sum) = (j : Int) ∧ 0 < a[j] :=
  sampleDiscrete_weight_pos a _ hpos (mul_pos hu0 hL) (mul_le_of_le_one_left hL.le hu1)

theorem sampleDiscreteFrom.go_lt (q : α) (rest : List α) (pSum : α) (i : Nat) (h : rest ≠ []) :
    sampleDiscreteFrom.go q rest pSum i < ((i + rest.length : Nat) : Int) := by
  induction rest generalizing pSum i with
  | nil => exact absurd rfl h
  | cons a r ih =>
    unfold sampleDiscreteFrom.go
    simp only [List.length_cons]
    split
    · cases r with
      | nil => simp only [sampleDiscreteFrom.go, List.length_nil]; omega
      | cons b r' => have := ih (pSum + a) (i + 1) (List.cons_ne_nil _ _); simp only [List.length_cons] at this ⊢; omega
    · omega

/-- `sample_discrete` returns `-1` ("none") or the index of an entry: never an index past the last reaction. -/
theorem sampleDiscreteFrom_toNat_lt (a : List α) (q : α) (h : 0 ≤ sampleDiscreteFrom a q) :
    (sampleDiscreteFrom a q).toNat < a.length := by
  cases a with
  | nil => simp [sampleDiscreteFrom, sampleDiscreteFrom.go] at h
  | cons b r => have := sampleDiscreteFrom.go_lt q (b :: r) 0 0 (List.cons_ne_nil _ _); simp only [sampleDiscreteFrom] at h ⊢; omega

end Bioscrape
