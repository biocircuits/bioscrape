import Mathlib.Analysis.SpecialFunctions.Pow.Real
import BioscrapeModel.Model.Num

/-
The laws of the libm functions that the theorems rely on (of `pow`, `fabs` and `exp`; nothing is assumed of `log`,
`sqrt`, `cos`), as a class over an ordered field, and the proof that the real numbers satisfy them.  This is the
"assumed contract" made explicit: the theorems hold for every number type with these laws, in particular for `ℝ`.
Also: Cython's `max`/`min` on doubles (`cmax`, `cmin`) are `max`/`min` in a linear order.
-/
namespace Bioscrape

class LawfulTransc (α : Type) [Field α] [LinearOrder α] [IsStrictOrderedRing α] [Transc α] : Prop where
  pow_natCast : ∀ (x : α) (n : ℕ), 0 < x → Transc.pow x (n : α) = x ^ n
  abs_eq : ∀ x : α, Transc.abs x = |x|
  exp_pos : ∀ x : α, 0 < Transc.exp x
  pow_neg_one : ∀ x : α, Transc.pow x (-1) = x⁻¹
  pow_natCast' : ∀ (x : α) (n : ℕ), Transc.pow x (n : α) = x ^ n
  one_le_exp : ∀ x : α, 0 ≤ x → 1 ≤ Transc.exp x

noncomputable instance : Transc ℝ where
  pow := Real.rpow
  exp := Real.exp
  log := Real.log
  abs := fun x => |x|
  sqrt := Real.sqrt
  cos := Real.cos

instance : LawfulTransc ℝ where
  pow_natCast x n _ := Real.rpow_natCast x n
  abs_eq _ := rfl
  exp_pos x := Real.exp_pos x
  pow_neg_one x := Real.rpow_neg_one x
  pow_natCast' x n := Real.rpow_natCast x n
  one_le_exp x hx := Real.one_le_exp hx

section
variable {α : Type} [LinearOrder α]

@[simp] theorem cmax_eq_max (a b : α) : cmax a b = max a b := by
  unfold cmax
  split
  · rename_i h; exact (max_eq_right (le_of_lt h)).symm
  · rename_i h; exact (max_eq_left (not_lt.mp h)).symm

@[simp] theorem cmin_eq_min (a b : α) : cmin a b = min a b := cmax_eq_max (α := αᵒᵈ) a b

end
end Bioscrape
