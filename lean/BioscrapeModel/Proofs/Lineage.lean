import Mathlib.Algebra.Order.Floor.Ring
import BioscrapeModel.Proofs.Common
import BioscrapeModel.Proofs.Vectors
import BioscrapeModel.Proofs.Loops
import BioscrapeModel.Model.Lineage

/-
Facts about the division and lineage models that do not depend on what is proved of them: vectors, rounding,
the recording loop's rows, the two fuelled loops, the list of schnitzes.
-/

namespace Bioscrape

section Lists
variable {β : Type}

theorem getElem?_append_of_eq_some {l : List β} {i : Nat} {a : β} (h : l[i]? = some a) (l' : List β) :
    (l ++ l')[i]? = some a := by
  rw [List.getElem?_append_left (List.getElem?_eq_some_iff.mp h).1, h]

theorem getElem?_append_cases {l l' : List β} {i : Nat} {a : β} (h : (l ++ l')[i]? = some a) :
    l[i]? = some a ∨ l.length ≤ i ∧ l'[i - l.length]? = some a := by
  rw [List.getElem?_append] at h
  split_ifs at h with hi
  exacts [Or.inl h, Or.inr ⟨not_lt.mp hi, h⟩]

theorem ite_singleton_sublist (b : Bool) (a : β) : (if b then [a] else []).Sublist [a] := by
  cases b
  exacts [List.nil_sublist _, List.Sublist.refl _]

end Lists

section Rounding

theorem mul_add_mul_one_sub {α : Type} [Ring α] (v p : α) : v * p + v * (1 - p) = v := by
  rw [← mul_add, add_sub_cancel, mul_one]

variable {α : Type} [Field α] [LinearOrder α] [IsStrictOrderedRing α]

variable [FloorRing α]

/-- rounding half up lands on the floor or one above it. -/
theorem floor_add_half (d : α) : ⌊d + 1 / 2⌋ = ⌊d⌋ ∨ ⌊d + 1 / 2⌋ = ⌊d⌋ + 1 := by
  have h1 : ⌊d⌋ ≤ ⌊d + 1 / 2⌋ := Int.floor_le_floor (le_add_of_nonneg_right one_half_pos.le)
  have h2 : ⌊d + 1 / 2⌋ ≤ ⌊d + 1⌋ := Int.floor_le_floor (add_le_add_right one_half_lt_one.le d)
  rw [Int.floor_add_one] at h2
  omega

theorem floor_natCast_add_half (m : Nat) : ⌊(m : α) + 1 / 2⌋ = m := by
  have : ⌊(1 / 2 : α)⌋ = 0 := Int.floor_eq_zero_iff.mpr ⟨one_half_pos.le, one_half_lt_one⟩
  rw [Int.floor_natCast_add, this, add_zero]

end Rounding

section CellLoop
variable {σ α : Type}

theorem writeRows_succ (res : List (List α × α)) (idx k : Nat) (row : List α × α) :
    writeRows res idx (k + 1) row = (writeRows res idx k row).set (idx + k) row := by
  simp only [writeRows, List.range_succ, List.foldl_append, List.foldl_cons, List.foldl_nil]

theorem writeRows_length (res : List (List α × α)) (idx k : Nat) (row : List α × α) :
    (writeRows res idx k row).length = res.length := by
  induction k with
  | zero => rfl
  | succ k ih => rw [writeRows_succ, List.length_set, ih]

/-- the recording loop overwrites rows `idx, …, idx + k - 1` (those that exist) and no other. -/
theorem writeRows_getD (res : List (List α × α)) (idx k : Nat) (row : List α × α) (i : Nat) (d : List α × α) :
    (writeRows res idx k row).getD i d = if idx ≤ i ∧ i < idx + k ∧ i < res.length then row else res.getD i d := by
  induction k with
  | zero => rw [if_neg (by omega)]; rfl
  | succ k ih =>
    rw [writeRows_succ, getD_set, ih, writeRows_length]
    split_ifs <;> first | rfl | (exfalso; omega)

theorem CellLoop.running_iff {s : CellLoop σ α} {n : Nat} :
    s.running n = true ↔ s.idx < n ∧ s.stop = false ∧ s.raised = false ∧ s.bad = false := by
  simp [CellLoop.running, and_assoc]

/-- whatever one pass keeps true while the loop is running holds when the loop is left, and the loop is then
no longer running. -/
theorem runCell_induction (iter : CellLoop σ α → CellLoop σ α) (n : Nat) (P : CellLoop σ α → Prop)
    (hiter : ∀ s, P s → s.running n = true → P (iter s)) (fuel : Nat) (s s' : CellLoop σ α) (h : P s)
    (hrun : runCell iter n fuel s = some s') : P s' ∧ s'.running n = false :=
  (fuelLoop_induction (runCell iter n) (fun s => s.running n = true) iter (fun _ => rfl) (fun _ _ => rfl) P
    (fun s hc hp => hiter s hp hc) fuel s s' h hrun).imp_right Bool.eq_false_iff.mpr

end CellLoop

/-! ### The schnitz list -/

section Nodes
variable {ρ : Type}

/-- the schnitzes after the one at `sid` has divided: it lists the next two positions as its daughters, and
the daughters, with results `r1` and `r2`, stand there. -/
def divideNodes (nodes : List (Node ρ)) (sid : Nat) (r1 r2 : ρ) : List (Node ρ) :=
  nodes.modify sid (fun nd => { nd with daughters := some (nodes.length, nodes.length + 1) }) ++
    [{ result := r1, parent := some sid, daughters := none }, { result := r2, parent := some sid, daughters := none }]

variable {nodes : List (Node ρ)} {sid : Nat} {r1 r2 : ρ}

theorem getElem?_modify_daughters (nodes : List (Node ρ)) (sid : Nat) (d : Nat × Nat) (i : Nat) :
    (nodes.modify sid fun nd => { nd with daughters := some d })[i]? =
      nodes[i]?.map fun nd => { nd with daughters := if i = sid then some d else nd.daughters } := by
  rw [List.getElem?_modify]
  by_cases h : sid = i
  · simp only [h, if_true]; rfl
  · simp only [h, Ne.symm h, if_false]
    cases nodes[i]? <;> rfl

theorem divideNodes_old {i : Nat} {nd : Node ρ} (h : nodes[i]? = some nd) :
    (divideNodes nodes sid r1 r2)[i]? =
      some { nd with daughters := if i = sid then some (nodes.length, nodes.length + 1) else nd.daughters } :=
  getElem?_append_of_eq_some (by rw [getElem?_modify_daughters, h]; rfl) _

theorem divideNodes_fst :
    (divideNodes nodes sid r1 r2)[nodes.length]? = some { result := r1, parent := some sid, daughters := none } := by
  rw [divideNodes, List.getElem?_append_right (by rw [List.length_modify]), List.length_modify, Nat.sub_self]
  rfl

theorem divideNodes_snd :
    (divideNodes nodes sid r1 r2)[nodes.length + 1]? = some { result := r2, parent := some sid, daughters := none } := by
  rw [divideNodes, List.getElem?_append_right (by rw [List.length_modify]; omega), List.length_modify,
    Nat.add_sub_cancel_left]
  rfl

/-- a schnitz of the new list is an old one (with its daughters entry as above) or one of the two daughters. -/
theorem divideNodes_cases {i : Nat} {nd : Node ρ} (h : (divideNodes nodes sid r1 r2)[i]? = some nd) :
    (∃ nd0, nodes[i]? = some nd0 ∧
      nd = { nd0 with daughters := if i = sid then some (nodes.length, nodes.length + 1) else nd0.daughters }) ∨
    i = nodes.length ∧ nd = { result := r1, parent := some sid, daughters := none } ∨
    i = nodes.length + 1 ∧ nd = { result := r2, parent := some sid, daughters := none } := by
  rcases getElem?_append_cases h with h | ⟨hi, h⟩
  · rw [getElem?_modify_daughters, Option.map_eq_some_iff] at h
    obtain ⟨nd0, h0, rfl⟩ := h
    exact Or.inl ⟨nd0, h0, rfl⟩
  · rw [List.length_modify] at hi h
    obtain ⟨k, rfl⟩ := Nat.exists_eq_add_of_le hi
    rw [Nat.add_sub_cancel_left] at h
    rcases k with _ | _ | k
    · exact Or.inr (Or.inl ⟨rfl, (Option.some.inj h).symm⟩)
    · exact Or.inr (Or.inr ⟨rfl, (Option.some.inj h).symm⟩)
    · cases h

end Nodes

section Runs
variable {κ ρ γ : Type}

/-- whatever one turn of the work list keeps true holds of the lineage that is returned. -/
theorem forestRun_induction (fate : κ → Fate) (split : κ → γ → (κ × κ) × γ) (sim : κ → κ → γ → (ρ × κ × Bool) × γ)
    (P : Forest κ ρ → Prop) (hstep : ∀ f c f' c', P f → forestStep fate split sim f c = some (f', c') → P f') :
    ∀ (fuel : Nat) (f f' : Forest κ ρ) (c c' : γ), P f → forestRun fate split sim fuel f c = some (f', c') → P f' := by
  intro fuel
  induction fuel with
  | zero =>
    intro f f' c c' h hrun
    rw [forestRun] at hrun
    split at hrun <;> cases hrun
    exact h
  | succ fuel ih =>
    intro f f' c c' h hrun
    rw [forestRun] at hrun
    split at hrun
    · cases hrun; exact h
    · next f1 c1 hs => exact ih f1 f' c1 c' (hstep f c f1 c1 h hs) hrun

/-- the final cell state `simOne` hands on is the one read off the result it returns. -/
theorem simOne_final {σ α : Type} [Zero α] [One α] [Add α] [Sub α] [Mul α] [Div α] [Neg α] [NatCast α] [IntCast α]
    [LT α] [LE α] [DecidableLT α] [DecidableLE α] [Transc α] [Trunc α]
    (g : Gen σ α) (m : CellModel α) (times : List α) (fuel : Nat) (v : Cell α) (c : Thread σ α) :
    (simOne g m times fuel v c).1.2 = (simOne g m times fuel v c).1.1.finalCell := by
  unfold simOne
  split_ifs <;> rfl

end Runs

end Bioscrape
