import Mathlib.Algebra.BigOperators.Group.List.Basic
import Mathlib.Tactic.Ring
import BioscrapeModel.Proofs.Common
import BioscrapeModel.Model.Network

/-
What the definitions of `Model/Network.lean` do, stated once: lists and matrices read with a default, the update
dictionary, the species index, the plain derivative.
-/

namespace Bioscrape

/-! ### Lists and matrices read with a default -/

theorem nodup_append_singleton {β : Type} {l : List β} {s : β} (h : l.Nodup) (hs : s ∉ l) : (l ++ [s]).Nodup :=
  List.nodup_append.mpr ⟨h, List.pairwise_singleton _ s, fun a ha b hb e => hs (List.eq_of_mem_singleton hb ▸ e ▸ ha)⟩

/-- a matrix built column by column from a list of column descriptions and row by row from a list of row labels. -/
theorem entry_map_map {β γ : Type} (f : β → γ → Int) (cols : List β) (idx : List γ) {i r : Nat}
    (hi : i < idx.length) (hr : r < cols.length) :
    entry (cols.map (fun c => idx.map (f c))) i r = f cols[r] idx[i] := by
  have hc : (cols.map (fun c => idx.map (f c))).getD r [] = idx.map (f cols[r]) := by
    rw [List.getD_eq_getElem _ _ (by rwa [List.length_map]), List.getElem_map]
  rw [entry, hc, List.getD_eq_getElem _ _ (by rwa [List.length_map]), List.getElem_map]

/-! ### The update dictionary counts products minus reactants, with multiplicity -/

theorem dictGet_bump (d : List (String × Int)) (s s' : String) (δ : Int) :
    dictGet (bump d s δ) s' = dictGet d s' + if s = s' then δ else 0 := by
  induction d with
  | nil => exact (zero_add _).symm
  | cons kv rest ih =>
    obtain ⟨k, v⟩ := kv
    rw [bump]
    split
    · next hk =>
      subst hk
      rw [dictGet, dictGet, ite_add_ite, add_zero]
    · next hk =>
      rw [dictGet, dictGet, ih]
      split
      · next h => rw [if_neg (fun e => hk (h.trans e.symm)), add_zero]
      · rfl

theorem dictGet_foldl_bump (ss : List String) (d : List (String × Int)) (s' : String) (δ : Int) :
    dictGet (ss.foldl (fun d s => bump d s δ) d) s' = dictGet d s' + δ * (ss.count s' : Int) := by
  induction ss generalizing d with
  | nil => rw [List.foldl_nil, List.count_nil, Int.natCast_zero, mul_zero, add_zero]
  | cons s rest ih =>
    rw [List.foldl_cons, ih, dictGet_bump, List.count_cons]
    simp only [beq_iff_eq]
    split <;> push_cast <;> ring

/-- **stoichiometric entry**: products minus reactants, counted with multiplicity; a species on both
sides contributes the difference (zero when the counts are equal). -/
theorem dictGet_updateDict (reactants products : List String) (s : String) :
    dictGet (updateDict reactants products) s = (products.count s : Int) - (reactants.count s : Int) := by
  rw [updateDict, dictGet_foldl_bump, dictGet_foldl_bump, dictGet, zero_add, one_mul, neg_one_mul, neg_add_eq_sub]

/-- a column depends on the reactant and product lists only through the multiplicities. -/
theorem stoichColumn_congr (idx : List String) {R R' P P' : List String}
    (hR : ∀ s, R'.count s = R.count s) (hP : ∀ s, P'.count s = P.count s) :
    stoichColumn idx R' P' = stoichColumn idx R P :=
  List.map_congr_left fun s _ => by rw [dictGet_updateDict, dictGet_updateDict, hR, hP]

/-! ### Species indexing -/

theorem mem_addSpecies {idx : List String} {s t : String} : t ∈ addSpecies idx s ↔ t ∈ idx ∨ (t = s ∧ t ≠ "") := by
  unfold addSpecies
  split
  · next h => exact ⟨Or.inl, fun h' => h'.elim id (by rintro ⟨rfl, ht⟩; exact h.resolve_right ht)⟩
  · next h =>
    rw [List.mem_append, List.mem_singleton]
    exact or_congr_right (and_iff_left_of_imp fun e ht => h (Or.inr (e.symm.trans ht))).symm

theorem addSpecies_prefix (idx : List String) (s : String) : idx <+: addSpecies idx s := by
  unfold addSpecies
  split
  · exact List.prefix_refl _
  · exact List.prefix_append _ _

theorem addSpecies_nodup (idx : List String) (s : String) (h : idx.Nodup) : (addSpecies idx s).Nodup := by
  unfold addSpecies
  split
  · exact h
  · next hn => exact nodup_append_singleton h fun hm => hn (Or.inl hm)

theorem addAll_prefix (idx ss : List String) : idx <+: addAll idx ss :=
  List.foldlRecOn ss addSpecies (List.prefix_refl idx) fun b hb s _ => hb.trans (addSpecies_prefix b s)

theorem addAll_nodup (idx ss : List String) (h : idx.Nodup) : (addAll idx ss).Nodup :=
  List.foldlRecOn ss addSpecies h fun b hb s _ => addSpecies_nodup b s hb

theorem mem_addAll {idx ss : List String} {t : String} : t ∈ addAll idx ss ↔ t ∈ idx ∨ (t ∈ ss ∧ t ≠ "") := by
  induction ss generalizing idx with
  | nil => simp [addAll]
  | cons s rest ih =>
    rw [addAll, List.foldl_cons, ← addAll, ih, mem_addSpecies, List.mem_cons, or_assoc, or_and_right]

/-- the index is built by one pass of `addAll` over all the names in the order the constructor meets them. -/
theorem speciesOrder_eq_addAll (decl : List String) (rxns : List RxnDef) (ic : List String) :
    speciesOrder decl rxns ic
      = addAll (addAll [] decl)
          (rxns.flatMap (fun r => r.reactants ++ r.products ++ r.dReactants ++ r.dProducts) ++ ic) := by
  simp only [speciesOrder, addAll, List.foldl_append, List.foldl_flatMap]

/-- the rows are exactly the non-empty names that are declared, given an initial condition or used by a reaction. -/
theorem mem_speciesOrder {decl : List String} {rxns : List RxnDef} {ic : List String} {s : String} :
    s ∈ speciesOrder decl rxns ic ↔ s ≠ "" ∧
      (s ∈ decl ∨ s ∈ ic ∨ ∃ r ∈ rxns, s ∈ r.reactants ∨ s ∈ r.products ∨ s ∈ r.dReactants ∨ s ∈ r.dProducts) := by
  simp only [speciesOrder_eq_addAll, mem_addAll, List.mem_append, List.mem_flatMap, List.not_mem_nil, false_or,
    or_assoc]
  rw [← or_and_right, and_comm, or_comm (b := s ∈ ic)]

/-! ### The plain derivative -/

section
variable {α : Type} [Zero α] [One α] [Add α] [Sub α] [Mul α] [Div α] [NatCast α] [IntCast α]
  [LT α] [LE α] [DecidableLT α] [DecidableLE α] [Transc α]

theorem derivative_getD (n : Nat) (U D : List (List Int)) (props : List (Propensity α)) (x p : Nat → α) (t : α)
    {s : Nat} (hs : s < n) :
    (derivative n U D props x p t).getD s 0 = derivRow U D (props.map (fun q => q.det x p t)) s := by
  rw [derivative, List.getD_eq_getElem _ _ (by rwa [List.length_map, List.length_range]), List.getElem_map, List.getElem_range]
  rfl

end

end Bioscrape
