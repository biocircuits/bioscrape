import Mathlib.Algebra.BigOperators.Group.Finset.Basic
import BioscrapeModel.Proofs.Common

/-
List facts behind the mass-action proofs (no model definitions here).

The tally of a list: its distinct elements in first-seen order, each with the number of its occurrences.
`MassActionPropensity.initialize` (`bumpCount`) and the SBML exporter (`Sbml.bumpName`) both build this
table, over species indices and over names; what the mass-action properties need of it is proved here, for any key
type.
-/

namespace Bioscrape

variable {κ : Type} [DecidableEq κ]

/-- count one more occurrence of `s`: raise its entry, or append `(s, 1)` when there is none. -/
def tallyStep : List (κ × ℕ) → κ → List (κ × ℕ)
  | [], s => [(s, 1)]
  | (i, c) :: rest, s => if i = s then (i, c + 1) :: rest else (i, c) :: tallyStep rest s

def tally (R : List κ) : List (κ × ℕ) := R.foldl tallyStep []

/-- the count in the first entry for `s` (the one `tallyStep` raises); `0` when there is none. -/
def tallyCount : List (κ × ℕ) → κ → ℕ
  | [], _ => 0
  | (i, c) :: rest, s => if i = s then c else tallyCount rest s

theorem tallyCount_step (sp : List (κ × ℕ)) (s s' : κ) :
    tallyCount (tallyStep sp s) s' = tallyCount sp s' + if s = s' then 1 else 0 := by
  induction sp with
  | nil => exact (Nat.zero_add _).symm
  | cons ic rest ih =>
    obtain ⟨i, c⟩ := ic
    by_cases h : i = s
    · subst h
      by_cases h' : i = s' <;> simp [tallyStep, tallyCount, h']
    · by_cases h' : i = s'
      · subst h'
        simp [tallyStep, tallyCount, h, Ne.symm h]
      · simp [tallyStep, tallyCount, h, h', ih]

theorem tallyCount_tally (R : List κ) (s : κ) : tallyCount (tally R) s = R.count s :=
  (foldl_count_step (tallyCount · s) tallyStep s (fun sp a => tallyCount_step sp a s) R []).trans (Nat.zero_add _)

theorem tally_pos (R : List κ) : ∀ e ∈ tally R, 0 < e.2 := by
  have step : ∀ (sp : List (κ × ℕ)) (s : κ), (∀ e ∈ sp, 0 < e.2) → ∀ e ∈ tallyStep sp s, 0 < e.2 := by
    intro sp s
    induction sp with
    | nil => intro _ e he; rw [tallyStep, List.mem_singleton] at he; rw [he]; exact Nat.one_pos
    | cons ic rest ih =>
      obtain ⟨i, c⟩ := ic
      intro h
      rw [List.forall_mem_cons] at h
      rw [tallyStep]
      split_ifs
      · exact List.forall_mem_cons.2 ⟨Nat.succ_pos c, h.2⟩
      · exact List.forall_mem_cons.2 ⟨h.1, ih h.2⟩
  exact List.foldlRecOn R tallyStep (fun _ he => absurd he List.not_mem_nil) fun sp h s _ => step sp s h

variable {M : Type} [CommMonoid M]

/-- `f s c` is a running product `∏_{j<c} g s j`: raising a count by one contributes one more factor. -/
theorem prod_tallyStep (f g : κ → ℕ → M) (h0 : ∀ s, f s 0 = 1) (hs : ∀ s c, f s (c + 1) = f s c * g s c)
    (sp : List (κ × ℕ)) (s : κ) :
    ((tallyStep sp s).map fun ic => f ic.1 ic.2).prod
      = (sp.map fun ic => f ic.1 ic.2).prod * g s (tallyCount sp s) := by
  induction sp with
  | nil =>
    simp only [tallyStep, tallyCount, List.map_cons, List.map_nil, List.prod_cons, List.prod_nil, hs, h0, one_mul,
      mul_one]
  | cons ic rest ih =>
    obtain ⟨i, c⟩ := ic
    by_cases h : i = s
    · subst h
      simp only [tallyStep, tallyCount, if_true, List.map_cons, List.prod_cons, hs, mul_right_comm]
    · simp only [tallyStep, tallyCount, if_neg h, List.map_cons, List.prod_cons, ih, mul_assoc]

/-- **the tally of `R` lists every distinct element of `R` once, with its multiplicity**, as seen by
any running product over the counts (`f s c = ∏_{j<c} g s j`, as in `prod_tallyStep`). -/
theorem prod_tally (f g : κ → ℕ → M) (h0 : ∀ s, f s 0 = 1) (hs : ∀ s c, f s (c + 1) = f s c * g s c)
    (R : List κ) :
    ((tally R).map fun ic => f ic.1 ic.2).prod = ∏ s ∈ R.toFinset, f s (R.count s) := by
  -- over any `F ⊇ R.toFinset`: elements that do not occur contribute `f s 0 = 1`
  suffices key : ∀ F : Finset κ, R.toFinset ⊆ F →
      ((tally R).map fun ic => f ic.1 ic.2).prod = ∏ s ∈ F, f s (R.count s) from key _ subset_rfl
  induction R using List.reverseRecOn with
  | nil => intro F _; simp only [List.count_nil, h0, Finset.prod_const_one]; rfl
  | append_singleton R a ih =>
    intro F hF
    have ha : a ∈ F := hF (List.mem_toFinset.2 (List.mem_append_right _ (List.mem_singleton_self a)))
    have hR : R.toFinset ⊆ F := fun s hs =>
      hF (List.mem_toFinset.2 (List.mem_append_left _ (List.mem_toFinset.1 hs)))
    rw [tally, List.foldl_append, List.foldl_cons, List.foldl_nil, ← tally, prod_tallyStep f g h0 hs,
      tallyCount_tally, ih F hR, ← Finset.mul_prod_erase F _ ha, ← Finset.mul_prod_erase F _ ha,
      List.count_append, List.count_singleton_self, hs, mul_right_comm]
    congr 1
    refine Finset.prod_congr rfl fun s hs => ?_
    rw [List.count_append, List.count_singleton, if_neg, add_zero]
    simpa using (Finset.mem_erase.1 hs).1.symm

theorem prod_tally_pow (x : κ → M) (R : List κ) :
    ((tally R).map fun ic => x ic.1 ^ ic.2).prod = (R.map x).prod := by
  rw [prod_tally (fun s c => x s ^ c) (fun s _ => x s) (fun _ => pow_zero _) (fun _ _ => pow_succ _ _),
    Finset.prod_list_map_count]

/-- the counts add up to the length: `prod_tally` read in `Multiplicative ℕ`, where products are sums. -/
theorem sum_tally_counts (R : List κ) : ((tally R).map (·.2)).sum = R.length := by
  rw [← List.sum_toFinset_count_eq_length]
  exact prod_tally (M := Multiplicative ℕ) (fun _ c => .ofAdd c) (fun _ _ => .ofAdd 1) (fun _ => rfl)
    (fun _ _ => rfl) R

end Bioscrape
