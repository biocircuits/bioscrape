import BioscrapeModel.Model.PowText

/-
The reader `readE` taken apart along its grammar `E := prim ('^' E)?`, the monotonicity of its two halves in the
fuel, and what it returns on the printer's text, with the fuel that suffices.
-/

namespace Bioscrape.PowText

/-- `prim := id | '(' E ')'`, reading `E` with fuel `f`. -/
def readPrim (f : Nat) (ts : List PTok) : Option (PowTree × List PTok) :=
  match ts with
  | .id n :: rest => some (.atom n, rest)
  | .lp :: rest =>
    match readE f rest with
    | some (e, .rp :: rest') => some (e, rest')
    | _ => none
  | _ => none

/-- `('^' E)?` after a primary, reading `E` with fuel `f`. -/
def readTail (f : Nat) (prim : Option (PowTree × List PTok)) : Option (PowTree × List PTok) :=
  match prim with
  | none => none
  | some (e, .hat :: rest') =>
    match readE f rest' with
    | some (r, rs) => some (.pow e r, rs)
    | none => none
  | some (e, rest) => some (e, rest)

theorem readE_succ (f : Nat) (ts : List PTok) : readE (f + 1) ts = readTail f (readPrim f ts) := rfl

def noHat (rest : List PTok) : Prop := rest.head? ≠ some .hat

theorem readTail_noHat (f : Nat) (e : PowTree) {k : List PTok} (h : noHat k) : readTail f (some (e, k)) = some (e, k) := by
  rcases k with _ | ⟨_ | _ | _ | _, k⟩
  case cons.hat => exact (h rfl).elim
  all_goals rfl

theorem readTail_hat {f : Nat} (e : PowTree) {k rest : List PTok} {t : PowTree} (h : readE f k = some (t, rest)) :
    readTail f (some (e, .hat :: k)) = some (.pow e t, rest) := by
  simp only [readTail, h]

/-! ### More fuel reads the same: the two halves of the step from `f` to `f + 1` -/

section
variable {f : Nat} (ih : ∀ ts r, readE f ts = some r → readE (f + 1) ts = some r)
include ih

theorem readPrim_mono {ts : List PTok} {r : PowTree × List PTok} (h : readPrim f ts = some r) :
    readPrim (f + 1) ts = some r := by
  rcases ts with _ | ⟨_ | _ | _ | _, ts⟩
  case cons.lp =>
    cases hr : readE f ts with
    | none => simp only [readPrim, hr] at h; cases h
    | some q => simpa only [readPrim, hr, ih ts q hr] using h
  all_goals exact h

theorem readTail_mono {p : Option (PowTree × List PTok)} {r : PowTree × List PTok} (h : readTail f p = some r) :
    readTail (f + 1) p = some r := by
  rcases p with _ | ⟨e, _ | ⟨_ | _ | _ | _, k⟩⟩
  case some.cons.hat =>
    cases hr : readE f k with
    | none => simp only [readTail, hr] at h; cases h
    | some q => simpa only [readTail, hr, ih k q hr] using h
  all_goals exact h

end

/-! ### What the reader returns for the printer's text -/

/-- what follows the text of a tree: nothing that continues the power chain, or `^` and a text that every fuel from `F`
on reads as `t`. -/
def ContOK (F : Nat) (tl : Option PowTree) (k rest : List PTok) : Prop :=
  match tl with
  | none => k = rest ∧ noHat rest
  | some t => ∃ k', k = .hat :: k' ∧ ∀ fuel, F ≤ fuel → readE fuel k' = some (t, rest)

theorem readTail_of_contOK {F f : Nat} {tl : Option PowTree} {k rest : List PTok} (e : PowTree)
    (hk : ContOK F tl k rest) (hf : F ≤ f) : readTail f (some (e, k)) = some (tailOf tl e, rest) := by
  cases tl with
  | none => obtain ⟨rfl, hr⟩ := hk; exact readTail_noHat f e hr
  | some t => obtain ⟨k', rfl, h⟩ := hk; exact readTail_hat e (h f hf)

/-- a text that begins with a primary (read by any fuel from `m` on) and goes on as `ContOK` says. -/
theorem readE_of_readPrim {F m fuel : Nat} {tl : Option PowTree} {ts k rest : List PTok} {e : PowTree}
    (hp : ∀ f, m ≤ f → readPrim f ts = some (e, k)) (hk : ContOK F tl k rest) (hf : F + m + 1 ≤ fuel) :
    readE fuel ts = some (tailOf tl e, rest) :=
  match fuel, hf with
  | f + 1, hf => by
    have hf := Nat.le_of_succ_le_succ hf
    rw [readE_succ, hp f (Nat.le_trans (Nat.le_add_left m F) hf),
      readTail_of_contOK e hk (Nat.le_trans (Nat.le_add_right F m) hf)]

theorem readE_printL3_acc (e : PowTree) : ∀ (F : Nat) (tl : Option PowTree) (k rest : List PTok), ContOK F tl k rest →
    ∀ fuel, F + size e ≤ fuel → readE fuel (printL3 e ++ k) = some (normAcc e tl, rest) := by
  induction e with
  | atom n =>
    intro F tl k rest hk fuel hf
    have hn : normAcc (.atom n) tl = tailOf tl (.atom n) := by cases tl <;> rfl
    rw [hn]
    exact readE_of_readPrim (m := 0) (fun _ _ => rfl) hk hf
  | pow a b iha ihb =>
    intro F tl k rest hk fuel hf
    -- the right operand is one primary: an identifier, or a parenthesised text that `ihb` reads
    have hprim : ∀ f, size b ≤ f → readPrim f (wrapIfPow b (printL3 b) ++ k) = some (normAcc b none, k) := by
      intro f hfb
      cases b with
      | atom m => rfl
      | pow b1 b2 =>
        have := ihb 0 none (.rp :: k) (.rp :: k) ⟨rfl, nofun⟩ f (by rwa [Nat.zero_add])
        simp only [wrapIfPow, List.append_assoc, List.cons_append, List.nil_append, readPrim, this]
    rw [size, Nat.add_comm (size a), ← Nat.add_assoc, ← Nat.add_assoc, Nat.add_right_comm] at hf
    rw [printL3, List.append_assoc, List.append_assoc]
    exact iha (F + size b + 1) (some (tailOf tl (normAcc b none))) _ rest
      ⟨_, rfl, fun _ => readE_of_readPrim hprim hk⟩ fuel hf

/-- **what the reader returns, for every tree**: the text of `e` is read as `readBack e` by any fuel from `size e` on. -/
theorem readE_printL3 (e : PowTree) (fuel : Nat) (h : size e ≤ fuel) : readE fuel (printL3 e) = some (readBack e, []) := by
  have := readE_printL3_acc e 0 none [] [] ⟨rfl, nofun⟩ fuel (by rwa [Nat.zero_add])
  rwa [List.append_nil] at this

/-! ### `readBack` -/

/-- read with a continuation, the result is always `identifier ^ something`. -/
theorem normAcc_some_shape (e : PowTree) : ∀ t, ∃ n r, normAcc e (some t) = .pow (.atom n) r := by
  induction e with
  | atom n => intro t; exact ⟨n, t, rfl⟩
  | pow a b iha _ => intro t; exact iha _

theorem readBack_pow_atom (n : Nat) (b : PowTree) : readBack (.pow (.atom n) b) = .pow (.atom n) (readBack b) := rfl

end Bioscrape.PowText
