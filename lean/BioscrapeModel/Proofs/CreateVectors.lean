import BioscrapeModel.Model.CreateVectors

/-
What a run of `_create_vectors` statements (`Model/CreateVectors.lean`) makes of the old contents of one container.
-/
namespace Bioscrape

namespace CreateVectors

/-- what a run leaves in container `n` depends only on what `n` held before, and not even on that when `n` is wiped
before the first statement that fills it. -/
theorem runOps_congr {I : Type} (ops : List (String × String)) (out : Nat → List I) (i : Nat) (st st' : Store I)
    (n : String) (h : st n = st' n ∨ wipedFirst ops n = true) : runOps ops out i st n = runOps ops out i st' n := by
  induction ops generalizing i st st' with
  | nil => exact h.resolve_right (by simp [wipedFirst])
  | cons o rest ih =>
    obtain ⟨k, m⟩ := o
    refine ih (i + 1) _ _ ?_
    simp only [wipedFirst] at h
    simp only [apply_ite (fun s : Store I => s n), Store.set]
    by_cases hmn : m = n
    · -- the statement targets `n`: a wipe makes the contents equal, a fill keeps equal contents equal (and is not
      -- preceded by a wipe), anything else changes nothing
      subst hmn
      simp only [if_true] at h ⊢
      cases hw : isWipe k <;> cases hf : isFill k <;> simp_all
    · simpa only [if_neg hmn, if_neg (Ne.symm hmn), ite_self] using h

end CreateVectors
end Bioscrape
