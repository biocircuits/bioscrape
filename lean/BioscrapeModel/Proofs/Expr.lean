import Mathlib.Algebra.Field.Defs
import Mathlib.Order.MinMax
import BioscrapeModel.Model.Expr

/-
General facts used by the expression properties (C02, C14): the greatest element of a list as
computed by a left fold, `Except` programs seen through `toOption`, and evaluation of products
written as left-nested `Expr.mul`.
-/

namespace Bioscrape

/-! ### The greatest element of a list -/

section order
variable {β : Type} [LinearOrder β]

theorem foldl_max_spec (rest : List β) (a : β) :
    (∀ v ∈ a :: rest, v ≤ rest.foldl max a) ∧ rest.foldl max a ∈ a :: rest :=
  (List.max?_eq_some_iff.1 (List.max?_cons' (x := a) (xs := rest))).symm

theorem foldl_min_spec (rest : List β) (a : β) :
    (∀ v ∈ a :: rest, rest.foldl min a ≤ v) ∧ rest.foldl min a ∈ a :: rest :=
  foldl_max_spec (β := βᵒᵈ) rest a

/-- a list has at most one greatest element, and permuting the list does not change it. -/
theorem greatest_eq_of_perm {vs ws : List β} (h : vs.Perm ws) {m m' : β}
    (hm : (∀ v ∈ vs, v ≤ m) ∧ m ∈ vs) (hm' : (∀ v ∈ ws, v ≤ m') ∧ m' ∈ ws) : m = m' :=
  le_antisymm (hm'.1 m (h.mem_iff.1 hm.2)) (hm.1 m' (h.mem_iff.2 hm'.2))

end order

/-! ### `Except` programs through `toOption` -/

section lift
variable {ε A B C V W U : Type}

/-- one step of a translation, unary node: `ra` is the translator's result on the sub-expression, `eva` what a
translated term means, `oa` the meaning of the sub-expression itself; `mk` builds the translated node and `op` is what
the node means.  If `oa` is `ra` seen through `eva` and `mk` means `op`, the node's meaning is its translation seen
through `evc`.  (`toOption_map_bind₂`: the same for a binary node.) -/
theorem toOption_map_bind₁ {oa : Option V} {ra : Except ε A} {eva : A → V} (ha : oa = ra.toOption.map eva)
    {mk : A → C} {evc : C → U} {op : V → U} (h : ∀ a, evc (mk a) = op (eva a)) :
    (do let x ← oa; pure (op x)) = (do let a ← ra; pure (mk a) : Except ε C).toOption.map evc := by
  subst ha
  cases ra with
  | error e => rfl
  | ok a => exact congrArg some (h a).symm

theorem toOption_map_bind₂ {oa : Option V} {ob : Option W} {ra : Except ε A} {rb : Except ε B}
    {eva : A → V} {evb : B → W} (ha : oa = ra.toOption.map eva) (hb : ob = rb.toOption.map evb)
    {mk : A → B → C} {evc : C → U} {op : V → W → U} (h : ∀ a b, evc (mk a b) = op (eva a) (evb b)) :
    (do let x ← oa; let y ← ob; pure (op x y))
      = (do let a ← ra; let b ← rb; pure (mk a b) : Except ε C).toOption.map evc := by
  subst ha hb
  cases ra with
  | error e => rfl
  | ok a =>
    cases rb with
    | error e => rfl
    | ok b => exact congrArg some (h a b).symm

end lift

/-! ### Products written as `e₀ * f₁ * f₂ * …` -/

section eval
variable {α : Type} [Field α] [LinearOrder α] [Transc α]

theorem eval_mul_some {env : Env α} {a b : Expr α} {x y : α} (ha : Expr.eval env a = some x)
    (hb : Expr.eval env b = some y) : Expr.eval env (a.mul b) = some (x * y) := by
  simp only [Expr.eval, ha, hb]; rfl

/-- if multiplying the factors `F b` onto an expression multiplies its value by `w b`, for every `b` of `sp`,
then multiplying all of them on multiplies the value by `∏ w b`. -/
theorem eval_foldl_mul_flatMap {β : Type} (env : Env α) (sp : List β) (F : β → List (Expr α)) (w : β → α)
    (hF : ∀ b ∈ sp, ∀ e0 v0, Expr.eval env e0 = some v0 →
      Expr.eval env ((F b).foldl Expr.mul e0) = some (v0 * w b))
    (e0 : Expr α) (v0 : α) (h0 : Expr.eval env e0 = some v0) :
    Expr.eval env ((sp.flatMap F).foldl Expr.mul e0) = some (v0 * (sp.map w).prod) := by
  induction sp generalizing e0 v0 with
  | nil => rw [List.flatMap_nil, List.foldl_nil, List.map_nil, List.prod_nil, mul_one, h0]
  | cons b sp ih =>
    rw [List.forall_mem_cons] at hF
    rw [List.flatMap_cons, List.foldl_append, ih hF.2 _ _ (hF.1 e0 v0 h0), List.map_cons, List.prod_cons, mul_assoc]

theorem eval_foldl_mul_map {ι : Type} (env : Env α) (l : List ι) (mk : ι → Expr α) (v : ι → α)
    (h : ∀ i ∈ l, Expr.eval env (mk i) = some (v i)) (e0 : Expr α) (v0 : α) (h0 : Expr.eval env e0 = some v0) :
    Expr.eval env ((l.map mk).foldl Expr.mul e0) = some (v0 * (l.map v).prod) := by
  rw [List.map_eq_flatMap]
  exact eval_foldl_mul_flatMap env l (fun i => [mk i]) v (fun i hi _ _ h0 => eval_mul_some h0 (h i hi)) e0 v0 h0

end eval
end Bioscrape
