import Mathlib.Algebra.BigOperators.Ring.List
import Mathlib.Tactic.Ring
import BioscrapeModel.Model.Sensitivity

/-
Each of the four difference quotients of `compute_J` / `compute_Zj` is a fixed combination of slopes through the
centre point, `Σ a · (f (c·h) − f 0)/h`, whose coefficients satisfy `Σ a·c = 1`.  Exactness on affine functions
and convergence to the derivative need no more than that.
-/

namespace Bioscrape
variable {α : Type} [Field α] [LinearOrder α] [IsStrictOrderedRing α]

/-- the pairs `(a, c)` of a scheme. -/
def slopeNodes : DiffMethod → List (α × α)
  | .fourth => [(-1 / 12, 2), (8 / 12, 1), (-8 / 12, -1), (1 / 12, -2)]
  | .central => [(1 / 2, 1), (-1 / 2, -1)]
  | .backward => [(-1, -1)]
  | .forward => [(1, 1)]

theorem stencil_eq_slopes (m : DiffMethod) (f : α → α) (h : α) :
    stencil m f h = ((slopeNodes m).map fun ac => ac.1 * (h⁻¹ * (f (ac.2 * h) - f 0))).sum := by
  cases m <;>
    simp only [stencil, slopeNodes, List.map_cons, List.map_nil, List.sum_cons, List.sum_nil, Nat.cast_ofNat, one_mul,
      neg_mul] <;>
    ring

theorem slopeNodes_consistent (m : DiffMethod) : ((slopeNodes (α := α) m).map fun ac => ac.1 * ac.2).sum = 1 := by
  cases m <;> simp only [slopeNodes, List.map_cons, List.map_nil, List.sum_cons, List.sum_nil] <;> norm_num

/-- if every slope of `f` through the centre is `c · d`, every scheme returns `d`. -/
theorem stencil_eq_of_slopes (m : DiffMethod) (f : α → α) (h d : α)
    (hf : ∀ c, h⁻¹ * (f (c * h) - f 0) = c * d) : stencil m f h = d := by
  simp only [stencil_eq_slopes, hf, ← mul_assoc, List.sum_map_mul_right, slopeNodes_consistent, one_mul]

end Bioscrape
