import BioscrapeModel.Proofs.Laws
import BioscrapeModel.Proofs.PropensityLists
import BioscrapeModel.Model.Propensity

/-
Helper lemmas for the mass-action properties (C01, C14): the loops of `MassActionPropensity` are `k`
times a product over the `sp_inds / sp_counts` table, that table is the tally of the reactant list, and
the classes `create_reaction` picks for orders 0, 1, 2 compute what the general loop would.
-/
set_option linter.unusedSectionVars false

namespace Bioscrape

theorem bumpCount_eq_tallyStep : bumpCount = tallyStep := by
  funext sp s
  induction sp with
  | nil => rfl
  | cons ic rest ih => simp only [bumpCount, tallyStep, ih]

theorem massActionInitLoop_eq_tally (R : List Nat) : massActionInitLoop R = tally R := by
  rw [massActionInitLoop, bumpCount_eq_tallyStep, tally]

/-- `sp_counts` adds up to the order of the reaction (the `num_species` of the volume forms). -/
theorem massActionInitLoop_numSpecies (R : List Nat) :
    ((massActionInitLoop R).map (·.2)).foldl (· + ·) 0 = R.length := by
  rw [← List.sum_eq_foldl, massActionInitLoop_eq_tally, sum_tally_counts]

theorem massActionInitLoop_pair (a b : Nat) :
    massActionInitLoop [a, b] = if a = b then [(a, 2)] else [(a, 1), (b, 1)] := by
  simp [massActionInitLoop, bumpCount]

section
variable {α : Type} [Field α] [LinearOrder α] [IsStrictOrderedRing α]

/-- falling factorial with the guard of the implementation: `∏_{j<m} max (y - j) 0`. -/
def ff (y : α) (m : Nat) : α := ((List.range m).map (fun (j : Nat) => max (y - (j : α)) 0)).prod

theorem ff_zero (y : α) : ff y 0 = 1 := rfl

theorem ff_succ (y : α) (m : Nat) : ff y (m + 1) = ff y m * max (y - (m : α)) 0 :=
  List.prod_range_succ _ m

theorem massActionDet_eq (x : Nat → α) (k : α) (sp : List (Nat × Nat)) :
    massActionDet x k sp = k * (sp.map fun ic => x ic.1 ^ ic.2).prod := by
  simp only [massActionDet, forRange, foldl_mul_map, List.map_const', List.length_range, List.prod_replicate]

theorem massActionStoch_eq (x : Nat → α) (k : α) (sp : List (Nat × Nat)) :
    massActionStoch x k sp = k * (sp.map fun ic => ff (x ic.1) ic.2).prod := by
  simp only [massActionStoch, forRange, foldl_mul_map, cmax_eq_max, ff]

/-- the general `MassActionPropensity` loops on the table built from a reactant list compute the closed forms. -/
theorem massActionDet_initLoop (x : Nat → α) (k : α) (R : List Nat) :
    massActionDet x k (massActionInitLoop R) = k * (R.map x).prod := by
  rw [massActionDet_eq, massActionInitLoop_eq_tally, prod_tally_pow]

theorem massActionStoch_initLoop (x : Nat → α) (k : α) (R : List Nat) :
    massActionStoch x k (massActionInitLoop R) = k * ∏ s ∈ R.toFinset, ff (x s) (R.count s) := by
  rw [massActionStoch_eq, massActionInitLoop_eq_tally,
    prod_tally (fun s c => ff (x s) c) (fun s c => max (x s - (c : α)) 0) (fun _ => ff_zero _) (fun _ _ => ff_succ _ _)]

variable [Transc α]

/-- the class chosen for a reactant list (`ConstitutivePropensity`, `Unimolecular…`, `Bimolecular…` for
orders 0, 1, 2) has the deterministic rate the general `MassActionPropensity` loop computes. -/
theorem createMassAction_det (k : Nat) (R : List Nat) (x p : Nat → α) (t : α) :
    (createMassAction (α := α) k R).det x p t = massActionDet x (p k) (massActionInitLoop R) := by
  rcases R with _ | ⟨a, _ | ⟨b, _ | ⟨c, rest⟩⟩⟩
  · rfl
  · rfl
  · rw [massActionInitLoop_pair]
    split_ifs with h
    · subst h; rfl
    · rfl
  · rfl

/-- the same for the stochastic rate, on non-negative states (the special classes do not clip a species'
first factor at `0`). -/
theorem createMassAction_stoch (k : Nat) (R : List Nat) (x p : Nat → α) (t : α) (hx : ∀ s, 0 ≤ x s) :
    (createMassAction (α := α) k R).stoch x p t = massActionStoch x (p k) (massActionInitLoop R) := by
  have h0 : ∀ s, cmax (x s - ((0 : Nat) : α)) 0 = x s := fun s => by
    rw [cmax_eq_max, Nat.cast_zero, sub_zero, max_eq_left (hx s)]
  rcases R with _ | ⟨a, _ | ⟨b, _ | ⟨c, rest⟩⟩⟩
  · rfl
  · exact congrArg (p k * ·) (h0 a).symm
  · rw [massActionInitLoop_pair]
    split_ifs with h
    · subst h
      change (if a ≠ a then _ else p k * x a * cmax (x a - 1) 0)
        = p k * cmax (x a - ((0 : Nat) : α)) 0 * cmax (x a - ((1 : Nat) : α)) 0
      rw [if_neg (not_not.2 rfl), h0, Nat.cast_one]
    · change (if a ≠ b then p k * x a * x b else _)
        = p k * cmax (x a - ((0 : Nat) : α)) 0 * cmax (x b - ((0 : Nat) : α)) 0
      rw [if_pos h, h0, h0]
  · rfl

end
end Bioscrape
