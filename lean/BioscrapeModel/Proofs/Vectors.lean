import Mathlib.Algebra.Order.Field.Basic
import BioscrapeModel.Model.Loops

/-
State vectors as lists: reading back a written entry (`vecGet`, `List.set`), adding a stoichiometric column (`addCol`,
`addScaledCol`) and the columns of an integer matrix read as numbers (`colOf`).
-/

namespace Bioscrape

variable {α : Type} [Field α]

theorem addCol_length (x c : List α) (h : c.length = x.length) : (addCol x c).length = x.length := by
  simp [addCol, h]

theorem addScaledCol_length (x c : List α) (a : α) (h : c.length = x.length) :
    (addScaledCol x a c).length = x.length := by
  simp [addScaledCol, h]

theorem addCol_getD (x c : List α) (i : Nat) (hc : c.length = x.length) (hi : i < x.length) :
    (addCol x c).getD i 0 = x.getD i 0 + c.getD i 0 := by
  simp [addCol, List.getD_eq_getElem?_getD, hi, hc ▸ hi]

theorem colOf_length (S : List (List Int)) (j : Nat) : (colOf (α := α) S j).length = (S.getD j []).length := by
  simp [colOf]

theorem colOf_getD (S : List (List Int)) (j i : Nat) : (colOf (α := α) S j).getD i 0 = ((entry S i j : Int) : α) := by
  unfold colOf entry
  simp only [List.getD_eq_getElem?_getD, List.getElem?_map]
  cases (S[j]?.getD [])[i]? <;> simp

theorem vecGet_set_self {α : Type} [Zero α] (v : List α) {i : Nat} (a : α) (h : i < v.length) :
    vecGet (v.set i a) i = a := by
  simp [vecGet, List.getD_eq_getElem?_getD, h]

theorem vecGet_set_ne {α : Type} [Zero α] (v : List α) {i j : Nat} (a : α) (h : i ≠ j) :
    vecGet (v.set i a) j = vecGet v j := by
  simp [vecGet, List.getD_eq_getElem?_getD, List.getElem?_set_ne h]

end Bioscrape
