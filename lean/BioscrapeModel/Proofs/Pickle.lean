import BioscrapeModel.Model.Pickle

/-
List facts behind the pickling theorems: looking a class up in a table list, reading an argument tuple back
through a parameter list, and attributes that every generation of copies preserves.
-/
namespace Bioscrape.Pickle

/-- a lookup with a default returns an element of the list as soon as some element matches. -/
theorem getD_find?_mem {τ : Type} {l : List τ} {p : τ → Bool} (d : τ) (h : ∃ x ∈ l, p x = true) :
    (l.find? p).getD d ∈ l := by
  obtain ⟨x, hx⟩ := Option.isSome_iff_exists.mp (List.find?_isSome.mpr h)
  rw [hx]
  exact List.mem_of_find?_eq_some hx

/-- reading a dump at the position where attribute `x` was stored gives the original's `x`. -/
theorem dump_getD {V : Type} {t : Generated.PickleTable} {i : Nat} {x : String} (o : Obj V) (d : V)
    (h : t.getstate[i]? = some x) : ((dump t o)[i]?).getD d = o x := by
  simp only [dump, List.getElem?_map, h, Option.map_some, Option.getD_some]

/-- positional arguments: if parameter `i` is written to the attribute `rs[i]`, then the attribute `a ∈ rs`
gets the value stored for it, the first parameter written to `a` being at `a`'s first position. -/
theorem find?_zip_map {κ β V : Type} [BEq β] [LawfulBEq β] (f : κ → β) (o : β → V) (a : β) :
    ∀ (ps : List κ) (rs : List β), (∀ pr ∈ ps.zip rs, f pr.1 = pr.2) → ps.length = rs.length → a ∈ rs →
      ((ps.zip (rs.map o)).find? (fun pa => f pa.1 == a)).map (·.2) = some (o a)
  | [], [], _, _, ha => nomatch ha
  | [], _ :: _, _, hl, _ => nomatch hl
  | _ :: _, [], _, hl, _ => nomatch hl
  | p :: ps, r :: rs, h, hl, ha => by
    obtain ⟨(hp : f p = r), hps⟩ := List.forall_mem_cons.mp h
    simp only [List.map_cons, List.zip_cons_cons, List.find?_cons]
    cases hpa : f p == a
    · have har : a ∈ rs := (List.mem_cons.mp ha).resolve_left fun e =>
        beq_eq_false_iff_ne.mp hpa (hp.trans e.symm)
      exact find?_zip_map f o a ps rs hps (Nat.succ.inj hl) har
    · rw [← eq_of_beq hpa, hp]; rfl

/-- what one generation leaves alone, any number of generations leave alone. -/
theorem stable_of_succ {κ V : Type} (S : List κ) (g : Nat → κ → V) (h : ∀ n, ∀ a ∈ S, g (n + 1) a = g n a) (n : Nat) :
    ∀ a ∈ S, g n a = g 0 a := by
  induction n with
  | zero => exact fun _ _ => rfl
  | succ n ih => exact fun a ha => (h n a ha).trans (ih a ha)

end Bioscrape.Pickle
