import Mathlib.Algebra.BigOperators.Group.List.Basic
import Mathlib.Algebra.Order.Field.Basic
import BioscrapeModel.Model.DelayQueue

/-
One-step behaviour of the array delay queue (`Model/DelayQueue.lean`) in terms of `DQ.pending`, the
amount per logical slot: the reasoning about which physical column of the ring buffer a slot lives in is done here.
-/
set_option linter.unusedSectionVars false

namespace Bioscrape

/-- the logical slots `j < n` of a ring that starts at column `s` lie in distinct columns. -/
theorem ring_inj {n s j k : Nat} (hj : j < n) (hk : k < n) (h : (s + j) % n = (s + k) % n) : j = k := by
  have h1 := Nat.sub_mod_eq_zero_of_mod_eq h
  have h2 := Nat.sub_mod_eq_zero_of_mod_eq h.symm
  rw [Nat.add_sub_add_left, Nat.mod_eq_of_lt (by omega)] at h1 h2
  omega

theorem sum_range_ite_eq {M : Type} [AddMonoid M] (n k : Nat) (a : M) :
    ((List.range n).map fun j => if j = k then a else 0).sum = if k < n then a else 0 := by
  induction n with
  | zero => rfl
  | succ n ih =>
    rw [List.sum_range_succ, ih]
    rcases Nat.lt_trichotomy k n with h | h | h
    · rw [if_pos h, if_neg (by omega), if_pos (by omega), add_zero]
    · rw [if_neg (by omega), if_pos h.symm, if_pos (by omega), zero_add]
    · rw [if_neg (by omega), if_neg (by omega), if_neg (by omega), add_zero]

namespace DQ
variable {α : Type} [Field α] [LinearOrder α] [Trunc α]

/-- the slot of an insertion is `(int)` of the offset, clamped to the queue. -/
theorem slotOf_clamp (q : DQ α) (t : α) (hn : 0 < q.numCols) :
    (q.slotOf t : Int) = min ((q.numCols : Int) - 1) (max 0 (Trunc.trunc ((t - q.next) / q.dt + 1 / 2))) := by
  simp only [slotOf, Nat.cast_ofNat]
  generalize Trunc.trunc (_ : α) = i
  split_ifs <;> omega

theorem slotOf_lt (q : DQ α) (t : α) (hn : 0 < q.numCols) : q.slotOf t < q.numCols := by
  have := q.slotOf_clamp t hn
  omega

/-- an insertion adds its amount to exactly one (slot, reaction) cell. -/
theorem pending_add (q : DQ α) (t a : α) (r r' j : Nat) (hj : j < q.numCols) :
    (q.add t r a).pending j r' = q.pending j r' + if j = q.slotOf t ∧ r' = r then a else 0 := by
  have hcol : (q.start + j) % q.numCols = (q.slotOf t + q.start) % q.numCols ↔ j = q.slotOf t := by
    rw [Nat.add_comm (q.slotOf t)]
    exact ⟨ring_inj hj (slotOf_lt q t (by omega)), fun h => h ▸ rfl⟩
  simp only [add, pending, hcol]
  split <;> simp

/-- what a read returns is the earliest slot. -/
theorem nextReactions_eq (q : DQ α) (hs : q.start < q.numCols) :
    q.nextReactions = (List.range q.numRxn).map (q.pending 0) := by
  unfold nextReactions pending
  simp only [Nat.add_zero, Nat.mod_eq_of_lt hs]

/-- the column of logical slot `j` after a rotation is that of slot `j + 1` before it. -/
theorem advance_col (q : DQ α) (j : Nat) :
    (q.advance.start + j) % q.advance.numCols = (q.start + (j + 1)) % q.numCols := by
  simp only [advance, Nat.mod_add_mod]
  congr 1
  omega

/-- advancing shifts every later slot one step earlier … -/
theorem pending_advance (q : DQ α) (j r : Nat) (hs : q.start < q.numCols) (hj : j + 1 < q.numCols) :
    q.advance.pending j r = q.pending (j + 1) r := by
  have hne : (q.start + (j + 1)) % q.numCols ≠ q.start := fun h =>
    absurd (ring_inj hj (by omega) (h.trans (Nat.mod_eq_of_lt hs).symm)) (Nat.succ_ne_zero j)
  unfold pending
  rw [advance_col]
  exact if_neg hne

/-- … and vacates the last one. -/
theorem pending_advance_last (q : DQ α) (r : Nat) (hs : q.start < q.numCols) :
    q.advance.pending (q.numCols - 1) r = 0 := by
  have hcol : (q.start + (q.numCols - 1 + 1)) % q.numCols = q.start := by
    rw [Nat.sub_add_cancel (by omega), Nat.add_mod_right, Nat.mod_eq_of_lt hs]
  unfold pending
  rw [advance_col, hcol]
  exact if_pos rfl

theorem advance_start_lt (q : DQ α) (hn : 0 < q.numCols) : q.advance.start < q.advance.numCols :=
  Nat.mod_lt _ hn

end DQ
end Bioscrape
