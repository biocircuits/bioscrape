import Mathlib.Tactic.SplitIfs
import BioscrapeModel.Model.Loops

/-
What the simulation loops of `Model/Loops.lean` share, stated once over the bare notation classes the model itself
is written in (no order or field laws are used):

* loops run with fuel (`fuelLoop_induction`, for any state type; `runLoop_induction` is its instance): an invariant
  kept by the iterations that the loop actually runs holds for the state it returns, which no longer meets the
  loop condition; a map of states that commutes with the iteration and keeps the three fields of the loop
  condition commutes with the loop (`runLoop_map`);
* `Records`: an iteration appends to the rows one copy of a state per grid time it passes;
* for each loop body, the fields it sets in the same way on every branch (its *frame*).
-/

set_option linter.unusedSectionVars false

namespace Bioscrape

/-- **loops run with fuel**: if `run` gives up when the fuel is spent while the loop condition `cond` still holds, and
otherwise iterates `iter` while `cond` holds, then whatever the iterations it actually runs keep true holds of the
state it returns, and that state no longer meets the condition. -/
theorem fuelLoop_induction {S : Type} (run : Nat → S → Option S) (cond : S → Prop) [DecidablePred cond] (iter : S → S)
    (h0 : ∀ s, run 0 s = if cond s then none else some s)
    (hs : ∀ fuel s, run (fuel + 1) s = if cond s then run fuel (iter s) else some s)
    (P : S → Prop) (hiter : ∀ s, cond s → P s → P (iter s)) :
    ∀ (fuel : Nat) (s s' : S), P s → run fuel s = some s' → P s' ∧ ¬ cond s' := by
  intro fuel
  induction fuel with
  | zero =>
    intro s s' h hrun
    rw [h0] at hrun
    split at hrun
    · cases hrun
    · rename_i hc; cases hrun; exact ⟨h, hc⟩
  | succ fuel ih =>
    intro s s' h hrun
    rw [hs] at hrun
    split at hrun
    · rename_i hc; exact ih _ _ (hiter s hc h) hrun
    · rename_i hc; cases hrun; exact ⟨h, hc⟩

variable {σ α : Type}

/-- the loop condition `current_index < num_timepoints`, no `break`, no sampling failure. -/
def LoopState.running (n : Nat) (s : LoopState σ α) : Prop := s.idx < n ∧ ¬ s.stop ∧ ¬ s.bad

theorem runLoop_induction (iter : LoopState σ α → LoopState σ α) (n : Nat) (P : LoopState σ α → Prop)
    (hstep : ∀ s, s.running n → P s → P (iter s)) :
    ∀ (fuel : Nat) (s s' : LoopState σ α), P s → runLoop iter n fuel s = some s' → P s' ∧ ¬ s'.running n :=
  fuelLoop_induction (runLoop iter n) (fun s => s.idx < n ∧ ¬ s.stop ∧ ¬ s.bad) iter (fun _ => rfl) (fun _ _ => rfl) P
    hstep

theorem runLoop_map (iter iter' : LoopState σ α → LoopState σ α) (n : Nat) (f : LoopState σ α → LoopState σ α)
    (hf : ∀ s, (f s).idx = s.idx ∧ (f s).stop = s.stop ∧ (f s).bad = s.bad)
    (hstep : ∀ s, f (iter s) = iter' (f s)) (fuel : Nat) (s : LoopState σ α) :
    (runLoop iter n fuel s).map f = runLoop iter' n fuel (f s) := by
  induction fuel generalizing s with
  | zero =>
    unfold runLoop
    rw [(hf s).1, (hf s).2.1, (hf s).2.2]
    split <;> rfl
  | succ fuel ih =>
    unfold runLoop
    rw [(hf s).1, (hf s).2.1, (hf s).2.2]
    split
    · rw [ih, hstep]
    · rfl

/-! ### Recording -/

section
variable [LE α] [DecidableLE α]

theorem recordCount_le (t : α) (l : List α) : recordCount t l ≤ l.length := by
  induction l with
  | nil => exact Nat.le_refl 0
  | cons T rest ih => unfold recordCount; split <;> simp <;> omega

/-- `s'` comes from `s` by moving the clock to `s'.t` and writing `x` into the row of every grid time passed on
the way: what the recording `while` loop of every simulator does. -/
def Records (times : List α) (s s' : LoopState σ α) (x : List α) : Prop :=
  s'.rows = s.rows ++ replicateRow (recordCount s'.t (times.drop s.idx)) x
    ∧ s'.idx = s.idx + recordCount s'.t (times.drop s.idx)

variable {times : List α} {s s' : LoopState σ α} {x : List α}

theorem Records.rows_length (h : Records times s s' x) (hs : s.rows.length = s.idx) :
    s'.rows.length = s'.idx := by
  rw [h.1, h.2, List.length_append, hs, replicateRow, List.length_replicate]

theorem Records.idx_le (h : Records times s s' x) (hs : s.idx ≤ times.length) : s'.idx ≤ times.length := by
  have := recordCount_le s'.t (times.drop s.idx)
  rw [List.length_drop] at this
  rw [h.2]; omega

end

/-! ### Frames of the loop bodies -/

section
variable [Zero α] [One α] [Add α] [Sub α] [Mul α] [Div α] [Neg α] [NatCast α] [IntCast α]
  [LT α] [LE α] [DecidableLT α] [DecidableLE α] [Transc α] [Trunc α]

theorem applyRules_nil (x p : List α) (vol t dt : α) (rs : Bool) : applyRules [] x p vol t dt rs = (x, p) := rfl

theorem propensities_length (m : SimModel α) (mode : Mode) (x p : List α) (V t : α) :
    (m.propensities mode x p V t).length = m.props.length := by
  unfold SimModel.propensities computePropensitiesSafe computePropensities
  split <;> simp

theorem propensities_plain (m : SimModel α) (mode : Mode) (x p : List α) (V t : α) (hs : m.safe = false) :
    m.propensities mode x p V t = m.props.map (Propensity.evalMode mode (vecGet x) (vecGet p) V t) := by
  simp [SimModel.propensities, computePropensities, hs]

theorem ssaIter_frame (g : Gen σ α) (m : SimModel α) (times : List α) (s : LoopState σ α) :
    let s' := ssaIter g m times s
    let xp := applyRules m.rules s.x s.p 1 s.t m.dt s.ruleStep
    Records times s s' xp.1 ∧ s'.p = xp.2 ∧ s'.stop = s.stop := by
  unfold Records ssaIter
  simp only [apply_ite LoopState.rows, apply_ite LoopState.idx, apply_ite LoopState.t, apply_ite LoopState.p,
    apply_ite LoopState.stop, ite_self, and_self]

theorem delayApply_frame (g : Gen σ α) (m : SimModel α) (times : List α) (s : LoopState σ α) (d : DelayDecision σ α) :
    let s' := delayApply g m times s d
    Records times s s' d.x ∧ s'.t = d.tNew ∧ s'.p = d.p ∧ s'.ruleStep = d.rstep ∧ s'.stop = s.stop := by
  unfold Records delayApply
  dsimp only
  -- the `match` on the sampled delay stops `apply_ite`: name what it matches on and take its two cases first
  generalize computeDelay g m d.p (sampleDiscreteFrom d.a ((g d.gs).1 * d.Lambda)).toNat (g d.gs).2 = cd
  rcases cd with _ | ⟨delay, gs⟩ <;>
    simp only [apply_ite LoopState.rows, apply_ite LoopState.idx, apply_ite LoopState.t, apply_ite LoopState.p,
      apply_ite LoopState.ruleStep, apply_ite LoopState.stop, ite_self, and_self]

theorem dvApply_frame (g : Gen σ α) (m : SimModel α) (vm : VolModel α) (times : List α) (s : LoopState σ α)
    (d : DVDecision σ α) :
    let s' := dvApply g m vm times s d
    Records times s s' d.x ∧ s'.t = d.tNew ∧ s'.p = d.p ∧ s'.ruleStep = d.rstep ∧ s'.nextTick = d.nextTick
      ∧ s'.volTrace = s.volTrace ++ List.replicate (recordCount s'.t (times.drop s.idx)) s.vol := by
  unfold Records dvApply
  dsimp only
  generalize computeDelay g m d.p (sampleDiscreteFrom d.a ((g d.gs).1 * d.Lambda)).toNat (g d.gs).2 = cd
  rcases cd with _ | ⟨delay, gs⟩ <;>
    simp only [apply_ite LoopState.rows, apply_ite LoopState.idx, apply_ite LoopState.t, apply_ite LoopState.p,
      apply_ite LoopState.ruleStep, apply_ite LoopState.nextTick, apply_ite LoopState.volTrace, ite_self, and_self]

/-- the delay+volume loop's choice of step: the reaction (`step_type` 0, or 3 when nothing can fire) if its proposed
time is strictly before both the tick and the queue time; otherwise the tick (1) if it is strictly before the queue
time; otherwise the queue (2).  Only a tick sets the rule-step flag and moves the tick clock. -/
theorem dvDecide_cases (g : Gen σ α) (m : SimModel α) (times : List α) (s : LoopState σ α) :
    let d := dvDecide g m times s
    let react := (dvPropose g m times s).proposed < s.nextTick ∧ (dvPropose g m times s).proposed < s.q.next
    (react ∧ (d.stepType = 0 ∨ d.stepType = 3) ∧ d.tNew = (dvPropose g m times s).proposed
        ∧ d.nextTick = s.nextTick ∧ d.rstep = false)
    ∨ (¬ react ∧ s.nextTick < s.q.next ∧ d.stepType = 1 ∧ d.tNew = s.nextTick
        ∧ d.nextTick = s.nextTick + m.dt ∧ d.rstep = true)
    ∨ (¬ react ∧ ¬ s.nextTick < s.q.next ∧ d.stepType = 2 ∧ d.tNew = s.q.next
        ∧ d.nextTick = s.nextTick ∧ d.rstep = false) := by
  unfold dvDecide
  generalize dvPropose g m times s = pr
  by_cases hr : pr.proposed < s.nextTick ∧ pr.proposed < s.q.next
  · refine Or.inl ⟨hr, ?_⟩
    simp only [hr.1, hr.2, and_self, decide_true, ↓reduceIte, Bool.not_true, Bool.false_and, Bool.false_eq_true,
      and_true]
    split_ifs <;> simp
  · by_cases ht : s.nextTick < s.q.next
    · exact Or.inr (Or.inl ⟨hr, ht, by simp [hr, ht]⟩)
    · exact Or.inr (Or.inr ⟨hr, ht, by simp [hr, ht]⟩)

end

end Bioscrape
