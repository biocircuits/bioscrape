import BioscrapeModel.Model.Sbml
import BioscrapeModel.Proofs.Network

/-
What the definitions of `Model/Sbml.lean` do: `split` and `join` on character lists, document stoichiometries,
renaming of identifiers, local parameters.
-/

namespace Bioscrape.Sbml

/-! ### `split` and `join` -/

theorem splitOnChar_of_not_mem (c : Char) (w : List Char) (h : c ∉ w) : splitOnChar c w = [w] := by
  induction w with
  | nil => rfl
  | cons x w ih =>
    rw [splitOnChar, if_neg (List.ne_of_not_mem_cons h).symm, ih (List.not_mem_of_not_mem_cons h)]

theorem splitOnChar_append_sep (c : Char) (w rest : List Char) (h : c ∉ w) :
    splitOnChar c (w ++ c :: rest) = w :: splitOnChar c rest := by
  induction w with
  | nil => exact if_pos rfl
  | cons x w ih =>
    rw [List.cons_append, splitOnChar, if_neg (List.ne_of_not_mem_cons h).symm, ih (List.not_mem_of_not_mem_cons h)]

/-- `join` puts the separator in front of every token but the first. -/
theorem joinWith_cons (c : Char) (w : List Char) (ws : List (List Char)) :
    joinWith c (w :: ws) = w ++ ws.flatMap (c :: ·) := by
  induction ws generalizing w with
  | nil => exact (List.append_nil w).symm
  | cons u us ih =>
    show w ++ c :: joinWith c (u :: us) = _
    rw [ih, List.flatMap_cons, List.cons_append]

/-- **`split` undoes `join`** when no token contains the separator. -/
theorem splitOnChar_append_flatMap (c : Char) (w : List Char) (ws : List (List Char)) (hw : c ∉ w)
    (h : ∀ u ∈ ws, c ∉ u) : splitOnChar c (w ++ ws.flatMap (c :: ·)) = w :: ws := by
  induction ws generalizing w with
  | nil => rw [List.flatMap_nil, List.append_nil, splitOnChar_of_not_mem c w hw]
  | cons u us ih =>
    rw [List.flatMap_cons, List.cons_append, splitOnChar_append_sep c w _ hw,
      ih u (h u List.mem_cons_self) fun v hv => h v (List.mem_cons_of_mem _ hv)]

theorem not_mem_joinWith (c ch : Char) (ws : List (List Char)) (hw : ∀ w ∈ ws, ch ∉ w) (hc : ch ≠ c) :
    ch ∉ joinWith c ws := by
  cases ws with
  | nil => exact List.not_mem_nil
  | cons w ws =>
    rw [joinWith_cons, List.mem_append, List.mem_flatMap]
    rintro (h | ⟨u, hu, h⟩)
    · exact hw w List.mem_cons_self h
    · exact (List.mem_cons.mp h).elim hc (hw u (List.mem_cons_of_mem _ hu))

/-- the annotation text is the tokens `k=v` joined by spaces behind an empty first token. -/
theorem encodeAnnotation_eq_joinWith (kvs : List (List Char × List Char)) :
    encodeAnnotation kvs = joinWith ' ' ([] :: kvs.map fun kv => kv.1 ++ '=' :: kv.2) := by
  rw [joinWith_cons, List.flatMap_map]; rfl

/-! ### Document stoichiometries: distinct names with multiplicities, expanded again on reading -/

theorem count_expand_cons (r : String × Nat) (rest : List (String × Nat)) (s : String) :
    (expand (r :: rest)).count s = (if r.1 = s then r.2 else 0) + (expand rest).count s := by
  rw [expand, List.flatMap_cons, List.count_append, List.count_replicate]
  simp only [beq_iff_eq]
  rfl

/-- counting a name once more raises its multiplicity in the expanded list by one, whether the name was met before
or not. -/
theorem count_expand_bumpName (sp : List (String × Nat)) (a s : String) :
    (expand (bumpName sp a)).count s = (expand sp).count s + if a = s then 1 else 0 := by
  induction sp with
  | nil => rw [bumpName, count_expand_cons, Nat.add_comm]
  | cons e rest ih =>
    obtain ⟨n, c⟩ := e
    rw [bumpName]
    split
    · next h =>
      subst h
      rw [count_expand_cons, count_expand_cons]
      split
      · exact Nat.add_right_comm _ _ _
      · rfl
    · rw [count_expand_cons, count_expand_cons, ih, Nat.add_assoc]

/-- **stoichiometry round trip**: writing the distinct species with their coefficients and expanding them
again on reading gives every species the multiplicity it had. -/
theorem count_expand_dedupCount (R : List String) (s : String) : (expand (dedupCount R)).count s = R.count s :=
  (foldl_count_step (fun sp => (expand sp).count s) bumpName s (fun sp a => count_expand_bumpName sp a s) R []).trans
    (Nat.zero_add _)

/-- the names of the dictionary in first-seen order: a name met before stays where it is, a new one goes to the end. -/
theorem map_fst_bumpName (sp : List (String × Nat)) (s : String) :
    (bumpName sp s).map (·.1) = if s ∈ sp.map (·.1) then sp.map (·.1) else sp.map (·.1) ++ [s] := by
  induction sp with
  | nil => rfl
  | cons e rest ih =>
    obtain ⟨n, c⟩ := e
    rw [bumpName]
    split
    · next h => rw [List.map_cons, List.map_cons, if_pos (h ▸ List.mem_cons_self)]
    · next h =>
      have hs : s ∈ n :: rest.map (·.1) ↔ s ∈ rest.map (·.1) := List.mem_cons.trans (or_iff_right (Ne.symm h))
      rw [List.map_cons, ih, apply_ite (List.cons n)]
      exact (if_congr hs rfl rfl).symm

theorem dedupCount_keys_nodup (R : List String) : ((dedupCount R).map (·.1)).Nodup := by
  refine List.foldlRecOn R bumpName (motive := fun sp => (sp.map (·.1)).Nodup) (b := []) List.nodup_nil fun sp h s _ => ?_
  rw [map_fst_bumpName]
  split
  · exact h
  · next hn => exact nodup_append_singleton h hn

/-! ### Renaming identifiers -/

section
variable {α : Type} [Zero α] [One α] [Add α] [Sub α] [Mul α] [Div α] [Neg α]
  [LT α] [LE α] [DecidableLT α] [DecidableLE α] [Transc α]

mutual
/-- the renamed formula means what the formula means where every identifier reads the value of its new name. -/
theorem eval_rename (old new : String) (env : Env α) :
    ∀ e : Expr α, Expr.eval env (rename old new e) = Expr.eval (fun s => env (if s = old then new else s)) e
  | .num _ => rfl
  | .ident _ => rfl
  | .add a b => by unfold rename Expr.eval; rw [eval_rename old new env a, eval_rename old new env b]
  | .sub a b => by unfold rename Expr.eval; rw [eval_rename old new env a, eval_rename old new env b]
  | .mul a b => by unfold rename Expr.eval; rw [eval_rename old new env a, eval_rename old new env b]
  | .div a b => by unfold rename Expr.eval; rw [eval_rename old new env a, eval_rename old new env b]
  | .pow a b => by unfold rename Expr.eval; rw [eval_rename old new env a, eval_rename old new env b]
  | .neg a => by unfold rename Expr.eval; rw [eval_rename old new env a]
  | .exp a => by unfold rename Expr.eval; rw [eval_rename old new env a]
  | .log a => by unfold rename Expr.eval; rw [eval_rename old new env a]
  | .abs a => by unfold rename Expr.eval; rw [eval_rename old new env a]
  | .step a => by unfold rename Expr.eval; rw [eval_rename old new env a]
  | .max args => by unfold rename Expr.eval; rw [evalList_renameList old new env args]
  | .min args => by unfold rename Expr.eval; rw [evalList_renameList old new env args]
theorem evalList_renameList (old new : String) (env : Env α) :
    ∀ es : List (Expr α),
      Expr.evalList env (rename.renameList old new es) = Expr.evalList (fun s => env (if s = old then new else s)) es
  | [] => rfl
  | a :: rest => by
      unfold rename.renameList Expr.evalList
      rw [eval_rename old new env a, evalList_renameList old new env rest]
end

end

/-! ### Local parameters -/

/-- one local parameter: renamed `id_reactionId` in the law if its id is taken, kept otherwise. -/
theorem importLocals_singleton {α : Type} (rxnId k : String) (v : α) (taken : List String) (law : Expr α) :
    importLocals rxnId taken [(k, v)] law
      = if k ∈ taken then ([(k ++ "_" ++ rxnId, v)], rename k (k ++ "_" ++ rxnId) law) else ([(k, v)], law) :=
  if_congr (or_iff_left List.not_mem_nil) rfl rfl

end Bioscrape.Sbml
