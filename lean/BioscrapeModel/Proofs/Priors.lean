import BioscrapeModel.Proofs.Laws
import BioscrapeModel.Model.Priors

/-
The real-number reading of the libm functions, and `check_prior` as a whole: the vector is accepted iff every
entry is, and then its log-prior is the sum of the entries' (`checkPrior_eq`).
-/

namespace Bioscrape

theorem Transc.pow_real (x y : ℝ) : Transc.pow x y = x ^ y := rfl
theorem Transc.exp_real (x : ℝ) : Transc.exp x = Real.exp x := rfl
theorem Transc.log_real (x : ℝ) : Transc.log x = Real.log x := rfl
theorem Transc.sqrt_real (x : ℝ) : Transc.sqrt x = √x := rfl

theorem sq_real (x : ℝ) : sq x = x ^ 2 := Real.rpow_natCast x 2

/-- the exponential factor of the two Gaussian priors in its usual form. -/
theorem gaussExp_real (y mu sigma : ℝ) :
    Transc.exp (-(1 / ((2 : ℕ) : ℝ)) * sq (y - mu) / sq sigma) = Real.exp (-(y - mu) ^ 2 / (2 * sigma ^ 2)) := by
  rw [sq_real, sq_real, Transc.exp_real, Nat.cast_ofNat]
  congr 1
  ring

/-- a `prob` that equals a non-negative density is accepted, with the logarithm of that density. -/
theorem logOfProb_eq {p q : ℝ} (h : p = q) (hq : 0 ≤ q) : logOfProb p = some (Real.log q) := by
  rw [logOfProb, if_neg (h ▸ not_lt.mpr hq), h]; rfl

/-- one entry's contribution to the log-prior: `none` = rejected. -/
noncomputable def itemLp (pi : ℝ) (it : PriorSpec ℝ × Bool × ℝ) : Option ℝ :=
  if it.2.1 = true ∧ it.2.2 < 0 then none else logPrior pi it.1 it.2.2

theorem priorStep_some (pi acc : ℝ) (it : PriorSpec ℝ × Bool × ℝ) :
    priorStep pi (some acc) it = (itemLp pi it).map (acc + ·) := by
  unfold priorStep itemLp
  split_ifs
  · rfl
  · cases logPrior pi it.1 it.2.2 <;> rfl

theorem foldl_priorStep (pi : ℝ) (items : List (PriorSpec ℝ × Bool × ℝ)) (acc : ℝ) :
    items.foldl (priorStep pi) (some acc) = if items.all (fun it => (itemLp pi it).isSome)
      then some (acc + (items.map (fun it => (itemLp pi it).getD 0)).sum) else none := by
  induction items generalizing acc with
  | nil => simp
  | cons it rest ih =>
    rw [List.foldl_cons, priorStep_some, List.all_cons, List.map_cons, List.sum_cons]
    cases itemLp pi it with
    | none => exact List.foldl_fixed' (fun _ => rfl) rest
    | some l => rw [Option.map_some, ih, ← add_assoc]; rfl

theorem checkPrior_eq (pi : ℝ) (items : List (PriorSpec ℝ × Bool × ℝ)) :
    checkPrior pi items = if items.all (fun it => (itemLp pi it).isSome)
      then some ((items.map (fun it => (itemLp pi it).getD 0)).sum) else none := by
  rw [checkPrior, foldl_priorStep, zero_add]

end Bioscrape
