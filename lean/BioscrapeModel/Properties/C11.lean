import BioscrapeModel.Properties.C06

/-
C11 — volume-aware simulation scales rates with volume and tracks growth and division.
-/
set_option linter.unusedSectionVars false

namespace Bioscrape.C11
open Bioscrape.C05

variable {σ α : Type} [Field α] [LinearOrder α] [IsStrictOrderedRing α] [Transc α] [Trunc α]

/-- the volume loop without flags: a restartable jump process whose stops are the grid times (when
nothing can fire) and the volume ticks, with propensities evaluated at the current volume. -/
def volumeStepSpec (g : Gen σ α) (m : SimModel α) (vm : VolModel α) (times : List α) (s : LoopState σ α) :
    LoopState σ α :=
  let xp := applyRules m.rules s.x s.p s.vol s.t m.dt s.ruleStep
  let a := m.propensities .svol xp.1 xp.2 s.vol s.t
  let Lambda := arraySum a
  let T := times.getD s.idx 0
  let zero := feq Lambda 0
  let ug := g s.g
  let cand := if zero then T else s.t + (-1 / Lambda * Transc.log ug.1)
  let g1 := if zero then s.g else ug.2
  let rec1 := fun (t : α) => s.rows ++ replicateRow (recordCount t (times.drop s.idx)) xp.1
  let vt1 := fun (t : α) => s.volTrace ++ List.replicate (recordCount t (times.drop s.idx)) s.vol
  let idx1 := fun (t : α) => s.idx + recordCount t (times.drop s.idx)
  if s.nextTick < cand then
    -- the volume tick comes first: one growth step, division test, next tick one dt later
    let vol := s.vol + vm.step xp.1 xp.2 s.nextTick s.vol m.dt
    let dv := vm.divided s.nextTick vol m.dt
    { s with x := xp.1, p := xp.2, t := s.nextTick, idx := idx1 s.nextTick, ruleStep := true, rows := rec1 s.nextTick,
             volTrace := vt1 s.nextTick, g := g1, vol := vol, nextTick := s.nextTick + m.dt, divided := dv, stop := dv }
  else if zero then
    -- nothing can fire: move to the grid time; only ticks are rule steps
    { s with x := xp.1, p := xp.2, t := cand, idx := idx1 cand, ruleStep := false, rows := rec1 cand,
             volTrace := vt1 cand, g := g1 }
  else
    let ug' := g g1
    let choice := sampleDiscreteFrom a (ug'.1 * Lambda)
    if choice < 0 then
      { s with x := xp.1, p := xp.2, t := cand, idx := idx1 cand, ruleStep := false, rows := rec1 cand,
               volTrace := vt1 cand, g := ug'.2, bad := true }
    else
      { s with x := addCol xp.1 (addCol (colOf m.U choice.toNat) (colOf m.D choice.toNat)), p := xp.2, t := cand,
               idx := idx1 cand, ruleStep := false, rows := rec1 cand, volTrace := vt1 cand, g := ug'.2 }

/-- **refinement, one iteration** (every stream, model, volume model, grid, state); the ghost log is the only thing
the specification does not carry. -/
theorem volumeIter_refines_spec (g : Gen σ α) (m : SimModel α) (vm : VolModel α) (times : List α)
    (s : LoopState σ α) : strip (volumeIter g m vm times s) = volumeStepSpec g m vm times (strip s) := by
  unfold volumeIter
  conv_rhs => unfold volumeStepSpec; dsimp only [strip]
  -- name the rule pass, the propensities and the first draw, so that the case analysis works on small terms
  generalize applyRules m.rules s.x s.p s.vol s.t m.dt s.ruleStep = xp
  obtain ⟨x, p⟩ := xp
  dsimp only
  generalize m.propensities .svol x p s.vol s.t = a
  generalize arraySum a = L
  generalize times.getD s.idx 0 = T
  generalize g s.g = ug
  obtain ⟨u, g1⟩ := ug
  dsimp only
  cases feq L 0
  · simp only [Bool.false_eq_true, ↓reduceIte]
    by_cases hT : s.nextTick < s.t + -1 / L * Transc.log u
    · simp only [hT, ↓reduceIte]; rfl
    · simp only [hT, ↓reduceIte, Bool.false_eq_true, apply_ite strip]; rfl
  · simp only [↓reduceIte]
    by_cases hT : s.nextTick < T
    · simp only [hT, ↓reduceIte]; rfl
    · simp only [hT, ↓reduceIte, Bool.false_eq_true]; rfl

/-- **refinement, whole runs**: for every stream the volume loop and its specification produce the same
rows, volume trace, division flag, final state and stream position. -/
theorem volume_refines_spec (g : Gen σ α) (m : SimModel α) (vm : VolModel α) (times : List α) (fuel : Nat)
    (s : LoopState σ α) :
    (runLoop (volumeIter g m vm times) times.length fuel s).map strip
      = runLoop (volumeStepSpec g m vm times) times.length fuel (strip s) :=
  runLoop_map _ _ _ strip (fun _ => ⟨rfl, rfl, rfl⟩) (volumeIter_refines_spec g m vm times) fuel s

theorem volume_run_spec {g : Gen σ α} {m : SimModel α} {vm : VolModel α} {times : List α} {fuel : Nat}
    {s s' : LoopState σ α} (h : runLoop (volumeIter g m vm times) times.length fuel s = some s') :
    runLoop (volumeStepSpec g m vm times) times.length fuel (strip s) = some (strip s') := by
  rw [← volume_refines_spec, h]; rfl

/-- **what one step of the volume specification does**, field by field: it records the rule-updated state and the current
volume; then either it is a tick — one growth step and the division test, nothing fires — or volume and flags stay and
at most one reaction fires (total propensity not zero; `(g (g s.g).2).1` is the step's second uniform). -/
theorem volumeStepSpec_outcome (g : Gen σ α) (m : SimModel α) (vm : VolModel α) (times : List α) (s : LoopState σ α) :
    let s' := volumeStepSpec g m vm times s
    let xp := applyRules m.rules s.x s.p s.vol s.t m.dt s.ruleStep
    let a := m.propensities .svol xp.1 xp.2 s.vol s.t
    let j := sampleDiscreteFrom a ((g (g s.g).2).1 * arraySum a)
    Records times s s' xp.1 ∧ s'.p = xp.2
      ∧ s'.volTrace = s.volTrace ++ List.replicate (recordCount s'.t (times.drop s.idx)) s.vol
      ∧ ((s'.t = s.nextTick ∧ s'.x = xp.1 ∧ s'.vol = s.vol + vm.step xp.1 xp.2 s.nextTick s.vol m.dt
            ∧ s'.divided = vm.divided s.nextTick s'.vol m.dt ∧ s'.stop = s'.divided)
        ∨ (s'.vol = s.vol ∧ s'.divided = s.divided ∧ s'.stop = s.stop ∧ (s'.x = xp.1 ∨
            (feq (arraySum a) 0 = false ∧ s'.x = addCol xp.1 (addCol (colOf m.U j.toNat) (colOf m.D j.toNat)))))) := by
  unfold Records volumeStepSpec
  -- keep the `let`s of the definition as local definitions, so that every term stays small
  extract_lets xp a L T zero ug cand g1 rec1 vt1 idx1 vol dv ug' choice s' j
  by_cases ht : s.nextTick < cand
  · rw [show s' = _ from if_pos ht]
    exact ⟨⟨rfl, rfl⟩, rfl, rfl, Or.inl ⟨rfl, rfl, rfl, rfl, rfl⟩⟩
  rw [show s' = _ from if_neg ht]
  by_cases hz : zero = true
  · rw [if_pos hz]
    exact ⟨⟨rfl, rfl⟩, rfl, rfl, Or.inr ⟨rfl, rfl, rfl, Or.inl rfl⟩⟩
  rw [if_neg hz]
  have hj : choice = j := congrArg (fun st => sampleDiscreteFrom a ((g st).1 * L)) (if_neg hz : g1 = (g s.g).2)
  by_cases hc : choice < 0
  · rw [if_pos hc]
    exact ⟨⟨rfl, rfl⟩, rfl, rfl, Or.inr ⟨rfl, rfl, rfl, Or.inl rfl⟩⟩
  · rw [if_neg hc]
    exact ⟨⟨rfl, rfl⟩, rfl, rfl, Or.inr ⟨rfl, rfl, rfl, Or.inr ⟨Bool.eq_false_iff.mpr hz, hj ▸ rfl⟩⟩⟩

/-- the propensities the volume loop samples from are the volume-scaled rate laws at the current volume:
for the plain interface each entry is `Propensity.svol`, whose closed forms are C01's
(`massAction_svol`: `k·∏ff / V^(r−1)`, zero order `k·V`; Hill terms on `s/V`). -/
theorem volume_propensities (m : SimModel α) (x p : List α) (V t : α) (hs : m.safe = false) :
    m.propensities .svol x p V t = m.props.map (fun q => q.svol (vecGet x) (vecGet p) V t) :=
  propensities_plain m .svol x p V t hs

/-- a bimolecular constant acts as `k/V`, a zero-order constant as `k·V` (instances of C01). -/
theorem bimolecular_scaled (k s1 s2 : Nat) (x p : Nat → α) (V t : α) (h : s1 ≠ s2) :
    (Propensity.bimolecular (α := α) k s1 s2).svol x p V t = p k * x s1 * x s2 / V := by
  simp [Propensity.svol, h]

theorem zero_order_scaled (k : Nat) (x p : Nat → α) (V t : α) :
    (Propensity.constitutive (α := α) k).svol x p V t = p k * V := by
  simp [Propensity.svol, Propensity.vol]

/-! ### Growth -/

variable [LawfulTransc α]

/-- one tick of exponential growth multiplies the volume by `exp(g·δ)`. -/
theorem tick_growth (gr divT vol dt : α) (x p : List α) (t : α) :
    vol + (VolModel.timeThreshold gr divT).step x p t vol dt = vol * Transc.exp (gr * dt) := by
  simp [VolModel.step]; ring

/-- the reported volume stays positive and, for a non-negative growth rate, never decreases. -/
theorem tick_positive_monotone (gr divT vol dt : α) (x p : List α) (t : α) (hv : 0 < vol) (hg : 0 ≤ gr * dt) :
    0 < vol + (VolModel.timeThreshold gr divT).step x p t vol dt
      ∧ vol ≤ vol + (VolModel.timeThreshold gr divT).step x p t vol dt := by
  rw [tick_growth]
  exact ⟨mul_pos hv (LawfulTransc.exp_pos _), le_mul_of_one_le_right hv.le (LawfulTransc.one_le_exp _ hg)⟩

/-- after `n` ticks from `V0` the volume is `V0 · exp(g δ)^n` (the growth law sampled on the tick grid). -/
theorem volume_after_ticks (gr divT dt V0 : α) (n : Nat) :
    (List.range n).foldl (fun v _ => v + (VolModel.timeThreshold gr divT).step ([] : List α) [] 0 v dt) V0
      = V0 * Transc.exp (gr * dt) ^ n := by
  induction n with
  | zero => simp
  | succ n ih => rw [List.range_succ, List.foldl_append, ih]; simp [VolModel.step]; ring

/-- the state-dependent volume grows by `exp(rate(x)·δ)` per tick, with `rate` the growth law evaluated on
the current state. -/
theorem tick_growth_state (growth : Term α) (divV vol dt : α) (x p : List α) (t : α) :
    vol + (VolModel.stateDep growth divV).step x p t vol dt
      = vol * Transc.exp (growth.eval (vecGet x) (vecGet p) t * dt) := by
  simp [VolModel.step]; ring

/-- the base `Volume` object never grows and never divides. -/
theorem const_volume (vol dt : α) (x p : List α) (t : α) :
    vol + (VolModel.const : VolModel α).step x p t vol dt = vol ∧ (VolModel.const : VolModel α).divided t vol dt = false := by
  simp [VolModel.step, VolModel.divided]

/-! ### Division -/

/-- the rows and the volume trace grow together with the index of the next time point. -/
def Recorded (s : LoopState σ α) : Prop := s.rows.length = s.idx ∧ s.volTrace.length = s.idx

theorem Recorded.step {times : List α} {s s' : LoopState σ α} {x : List α} (h : Recorded s) (hrec : Records times s s' x)
    (hvt : s'.volTrace = s.volTrace ++ List.replicate (recordCount s'.t (times.drop s.idx)) s.vol) : Recorded s' :=
  ⟨hrec.rows_length h.1, by rw [hvt, hrec.2, List.length_append, List.length_replicate, h.2]⟩

/-- rows, volume trace and grid index stay aligned: one row and one volume entry per passed grid time. -/
theorem spec_rows_aligned (g : Gen σ α) (m : SimModel α) (vm : VolModel α) (times : List α) (s : LoopState σ α)
    (h : s.rows.length = s.idx ∧ s.volTrace.length = s.idx) :
    (volumeStepSpec g m vm times s).rows.length = (volumeStepSpec g m vm times s).idx
      ∧ (volumeStepSpec g m vm times s).volTrace.length = (volumeStepSpec g m vm times s).idx := by
  obtain ⟨hrec, -, hvt, -⟩ := volumeStepSpec_outcome g m vm times s
  exact Recorded.step h hrec hvt

/-- **division stops the simulation at a tick**: the `stop` flag is raised only by a volume tick at which
the volume model reports division, it is the `divided` flag of the result, and the rows written so far
(those at grid times up to that tick) are the whole result. -/
theorem division_only_at_tick (g : Gen σ α) (m : SimModel α) (vm : VolModel α) (times : List α) (s : LoopState σ α)
    (hs : s.stop = false) (h : (volumeStepSpec g m vm times s).stop = true) :
    (volumeStepSpec g m vm times s).divided = true ∧ (volumeStepSpec g m vm times s).t = s.nextTick
      ∧ vm.divided s.nextTick (volumeStepSpec g m vm times s).vol m.dt = true := by
  rcases (volumeStepSpec_outcome g m vm times s).2.2.2 with ⟨ht, -, -, hd, hst⟩ | ⟨-, -, hst, -⟩
  · exact ⟨hst ▸ h, ht, hd ▸ hst ▸ h⟩
  · rw [hst, hs] at h; cases h

/-- the time-threshold model reports division exactly in the tick interval that contains the division time. -/
theorem timeThreshold_divides (gr divT t vol dt : α) :
    (VolModel.timeThreshold gr divT).divided t vol dt = true ↔ t - dt < divT ∧ divT ≤ t := by
  simp [VolModel.divided]

/-! ### Mass-action networks never report a negative count in the volume loop either -/

section VolNonNeg
open Bioscrape.C01 Bioscrape.C06

theorem volScale_pos (V : α) (r : Nat) (hV : 0 < V) : 0 < volScale V r := by
  unfold volScale
  split_ifs
  · exact hV
  · exact one_div_pos.mpr (pow_pos hV _)

/-- the volume-scaled stochastic mass-action propensity of whole counts is not negative, and when it is not zero
every reactant is present in its multiplicity — the volume only rescales the rate. -/
theorem massAction_svol_nat (k : Nat) (R : List Nat) (x p : List α) (V t : α) (hx : IsNatVec x)
    (hk : 0 ≤ vecGet p k) (hV : 0 < V) :
    EnablesAt R x ((createMassAction (α := α) k R).svol (vecGet x) (vecGet p) V t) := by
  have hnn := vecGet_nonneg x hx
  rw [massAction_svol k R _ _ V t hnn, ← massAction_stoch k R _ _ t hnn]
  exact (massAction_stoch_nat k R x p t hx hk).mul (volScale_pos V _ hV)

/-- counts stay whole and non-negative, and the volume stays positive. -/
structure NatVolState (n : Nat) (s : LoopState σ α) : Prop where
  nat : NatState n s
  vol : 0 < s.vol

/-- **one step of the volume loop** (plain mass-action network without rules, uniforms in `(0, 1]`, a volume model
whose growth step keeps a positive volume positive). -/
theorem volumeStep_natState (g : Gen σ α) (m : SimModel α) (vm : VolModel α) (ks : List Nat) (Rs : List (List Nat))
    (n : Nat) (times : List α) (s : LoopState σ α) (hnet : MANet m ks Rs n) (hrate : ∀ k ∈ ks, 0 ≤ vecGet s.p k)
    (hu : ∀ st : σ, 0 < (g st).1 ∧ (g st).1 ≤ 1)
    (hgrow : ∀ (x p : List α) (t v dt : α), 0 < v → 0 < v + vm.step x p t v dt) (h : NatVolState n s) :
    NatVolState n (volumeStepSpec g m vm times s) ∧ (volumeStepSpec g m vm times s).p = s.p := by
  obtain ⟨⟨hrows, -⟩, hp, -, hcases⟩ := volumeStepSpec_outcome g m vm times s
  simp only [hnet.norules, applyRules_nil] at hrows hp hcases
  have hE := hnet.enabling .svol s.x s.p s.vol s.t hrate
    (fun k R hk => massAction_svol_nat k R s.x s.p s.vol s.t h.nat.cur hk h.vol)
  have hstate : IsNatVec (volumeStepSpec g m vm times s).x ∧ (volumeStepSpec g m vm times s).x.length = n
      ∧ 0 < (volumeStepSpec g m vm times s).vol := by
    rcases hcases with ⟨-, hx, hv, -, -⟩ | ⟨hv, -, -, hx | ⟨hz, hx⟩⟩ <;> rw [hx, hv]
    · exact ⟨h.nat.cur, h.nat.len, hgrow _ _ _ _ _ h.vol⟩
    · exact ⟨h.nat.cur, h.nat.len, h.vol⟩
    · have hf := fire_natVec hnet hE h.nat.len (g (g s.g).2).1 (hu _) (hE.sum_pos hz)
      exact ⟨hf.1, hf.2, h.vol⟩
  exact ⟨⟨⟨hstate.1, hstate.2.1, hrows ▸ IsNatVec.record h.nat.rows h.nat.cur _⟩, hstate.2.2⟩, hp⟩

/-- **whole runs of the volume simulator**: every reported row of a plain mass-action network consists of whole,
non-negative counts, and the volume stays positive, for every stream of uniforms in `(0, 1]`. -/
theorem volume_run_nonneg (g : Gen σ α) (m : SimModel α) (vm : VolModel α) (ks : List Nat) (Rs : List (List Nat))
    (n : Nat) (times : List α) (hnet : MANet m ks Rs n) (hu : ∀ st : σ, 0 < (g st).1 ∧ (g st).1 ≤ 1)
    (hgrow : ∀ (x p : List α) (t v dt : α), 0 < v → 0 < v + vm.step x p t v dt)
    (fuel : Nat) (s s' : LoopState σ α) (hrate : ∀ k ∈ ks, 0 ≤ vecGet s.p k) (h : NatVolState n s)
    (hrun : runLoop (volumeIter g m vm times) times.length fuel s = some s') :
    (∀ r ∈ s'.rows, IsNatVec r) ∧ 0 < s'.vol := by
  have := (runLoop_induction _ _ (fun s => (∀ k ∈ ks, 0 ≤ vecGet s.p k) ∧ NatVolState n s)
    (fun s _ hs => by
      obtain ⟨hns, hp⟩ := volumeStep_natState g m vm ks Rs n times s hnet hs.1 hu hgrow hs.2
      exact ⟨hp ▸ hs.1, hns⟩) fuel (strip s) (strip s') ⟨hrate, ⟨h.nat.cur, h.nat.len, h.nat.rows⟩, h.vol⟩
    (volume_run_spec hrun)).1.2
  exact ⟨this.nat.rows, this.vol⟩

/-- every volume model of the library keeps a positive volume positive (its step is `(exp(·) - 1) · V` or `0`), so the
growth hypothesis of `volume_run_nonneg` is met by `Volume`, `StochasticTimeThresholdVolume` and
`StateDependentVolume` alike. -/
theorem volModel_keeps_positive (vm : VolModel α) (x p : List α) (t v dt : α) (hv : 0 < v) :
    0 < v + vm.step x p t v dt := by
  cases vm with
  | const => simpa [VolModel.step] using hv
  | timeThreshold gr divT => rw [tick_growth]; exact mul_pos hv (LawfulTransc.exp_pos _)
  | stateDep growth divV => rw [tick_growth_state]; exact mul_pos hv (LawfulTransc.exp_pos _)

end VolNonNeg

/-! ### Non-vacuity -/
example : (2 : ℚ) + ((3 : ℚ) / 2 - 1) * 2 = 2 * (3 / 2) := by norm_num

/-! ### The delay+volume loop: the volume changes on ticks only, by the volume model's step at the tick's time -/

/-- a tick (`step_type` 1) of the delay+volume loop grows the volume by the model's step evaluated at the time the tick
ends (`d.tNew`, the tick time itself), and asks the volume model about division at that time and volume. -/
theorem dv_tick_volume (g : Gen σ α) (m : SimModel α) (vm : VolModel α) (times : List α) (s : LoopState σ α)
    (d : DVDecision σ α) (h1 : d.stepType = 1) :
    (dvApply g m vm times s d).vol = s.vol + vm.step d.x d.p d.tNew s.vol m.dt
      ∧ (dvApply g m vm times s d).divided = vm.divided d.tNew (s.vol + vm.step d.x d.p d.tNew s.vol m.dt) m.dt
      ∧ (dvApply g m vm times s d).x = d.x := by
  unfold dvApply
  simp [h1]

/-- every other step (firing, delivery, move to the requested time) leaves the volume as it was. -/
theorem dv_other_volume (g : Gen σ α) (m : SimModel α) (vm : VolModel α) (times : List α) (s : LoopState σ α)
    (d : DVDecision σ α) (h1 : d.stepType ≠ 1) : (dvApply g m vm times s d).vol = s.vol := by
  unfold dvApply
  dsimp only
  generalize computeDelay g m d.p (sampleDiscreteFrom d.a ((g d.gs).1 * d.Lambda)).toNat (g d.gs).2 = cd
  rcases cd with _ | ⟨delay, gs⟩ <;> simp only [apply_ite LoopState.vol, h1, ↓reduceIte, ite_self]

/-- the time handed to the volume model on a tick is the tick that is ending: `s.nextTick`, not the following one. -/
theorem delayVolume_tick_time (g : Gen σ α) (m : SimModel α) (times : List α) (s : LoopState σ α)
    (h : (dvDecide g m times s).stepType = 1) : (dvDecide g m times s).tNew = s.nextTick := by
  rcases dvDecide_cases g m times s with ⟨-, h0 | h0, -⟩ | ⟨-, -, -, ht, -⟩ | ⟨-, -, h2, -⟩
  · rw [h0] at h; cases h
  · rw [h0] at h; cases h
  · exact ht
  · rw [h2] at h; cases h

/-! ### Ties between the volume tick and the queue: the recorded finding, as a theorem

In the delay + volume loop a volume tick and a queue time that coincide are not taken together: the queue step comes first
(`elif next_vol_time < next_queued_reaction_time` is strict) and is not a tick; the division test runs only in tick steps.
At an interior grid time the tick follows in the next iteration; when the coinciding time is the last requested time the
loop ends once that row is written, so the division the volume model would report there is never asked for (known finding
`division/last-grid-time/delay+volume`). -/

/-- on a tie, with no reaction proposed earlier, the step is the queue's: not a tick, the tick stays pending. -/
theorem dv_tie_is_queue_step (g : Gen σ α) (m : SimModel α) (times : List α) (s : LoopState σ α)
    (htie : s.nextTick = s.q.next) (hlate : ¬ (dvPropose g m times s).proposed < s.nextTick) :
    (dvDecide g m times s).stepType = 2 ∧ (dvDecide g m times s).rstep = false
      ∧ (dvDecide g m times s).tNew = s.q.next ∧ (dvDecide g m times s).nextTick = s.nextTick := by
  rcases dvDecide_cases g m times s with ⟨hr, -⟩ | ⟨-, ht, -⟩ | ⟨-, -, h2, htn, hnt, hrs⟩
  · exact absurd hr.1 hlate
  · exact absurd (htie ▸ ht) (lt_irrefl _)
  · exact ⟨h2, hrs, htn, hnt⟩

/-- a queue step never asks the volume model whether the cell divides. -/
theorem dv_queue_step_no_division_test (g : Gen σ α) (m : SimModel α) (vm : VolModel α) (times : List α) (s : LoopState σ α)
    (d : DVDecision σ α) (h2 : d.stepType = 2) :
    (dvApply g m vm times s d).divided = s.divided ∧ (dvApply g m vm times s d).stop = s.stop := by
  unfold dvApply
  simp [h2]

/-- **the finding**: if tick and queue time coincide at the last requested time and nothing fires before, that iteration
writes the last row(s) without a division test, and the loop is over — whatever the volume model would have reported. -/
theorem dv_tie_at_last_time_ends_undivided (g : Gen σ α) (m : SimModel α) (vm : VolModel α) (times : List α)
    (s : LoopState σ α) (fuel : Nat)
    (htie : s.nextTick = s.q.next) (hlate : ¬ (dvPropose g m times s).proposed < s.nextTick)
    (hdone : times.length ≤ (delayVolumeIter g m vm times s).idx) :
    runLoop (delayVolumeIter g m vm times) times.length fuel (delayVolumeIter g m vm times s)
      = some (delayVolumeIter g m vm times s)
    ∧ (delayVolumeIter g m vm times s).divided = s.divided := by
  constructor
  · cases fuel <;> (unfold runLoop; simp [Nat.not_lt.mpr hdone])
  · unfold delayVolumeIter
    exact (dv_queue_step_no_division_test g m vm times s _ (dv_tie_is_queue_step g m times s htie hlate).1).1

/-! ### Whole runs: as many rows as volume entries, and that many time points were reached -/

theorem dvApply_recorded (g : Gen σ α) (m : SimModel α) (vm : VolModel α) (times : List α) (s : LoopState σ α)
    (d : DVDecision σ α) (h : Recorded s) : Recorded (dvApply g m vm times s d) := by
  obtain ⟨hrec, -, -, -, -, hvt⟩ := dvApply_frame g m vm times s d
  exact h.step hrec hvt

/-- **a delay+volume run that stops at a division returns as many rows as volume entries, one per time point reached**
(there is no further row: the arrays handed back are cut at the index the loop stopped at). -/
theorem delayVolume_run_recorded (g : Gen σ α) (m : SimModel α) (vm : VolModel α) (times : List α) (fuel : Nat)
    (s s' : LoopState σ α) (h : Recorded s)
    (hrun : runLoop (delayVolumeIter g m vm times) times.length fuel s = some s') : Recorded s' :=
  (runLoop_induction _ _ Recorded (fun s _ => dvApply_recorded g m vm times s _) fuel s s' h hrun).1

/-- the same for the volume simulator: a run cut short by a division hands back exactly the rows it wrote. -/
theorem volume_run_recorded (g : Gen σ α) (m : SimModel α) (vm : VolModel α) (times : List α) (fuel : Nat)
    (s s' : LoopState σ α) (h : Recorded s)
    (hrun : runLoop (volumeIter g m vm times) times.length fuel s = some s') : Recorded s' :=
  (runLoop_induction _ _ Recorded (fun s _ => spec_rows_aligned g m vm times s) fuel (strip s) (strip s') h
    (volume_run_spec hrun)).1

/-- the initial state has written nothing yet. -/
example (m : SimModel α) (x0 p0 : List α) (g0 : σ) (vol0 : α) (q0 : DQ α) : Recorded (initState m x0 p0 g0 vol0 q0) := by
  simp [Recorded, initState]

end Bioscrape.C11
