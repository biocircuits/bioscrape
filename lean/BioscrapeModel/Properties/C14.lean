import BioscrapeModel.Proofs.Expr
import BioscrapeModel.Model.Sbml
import BioscrapeModel.Properties.C01

/-
C14 — exported kinetic laws equal the model's own rate laws.

Proved for mass action of any order and multiplicity (deterministic and stochastic export; `kl_det_partial` puts
the two together) and for general rates without a step function (`kl_general_stepfree`).  For the Hill family the
full statement is *false* on this tree: the positive laws mention the undefined identifier `n`
(`kl_hill_undefined_identifier`) and the laws use `K` where the rate has `K^n` (the arithmetic of one instance:
`kl_hill_wrong_constant`); the defect is a recorded known finding (the frozen SBML files of the test
suite pin the text, so it cannot be repaired with the suite unedited).
-/
set_option linter.unusedSectionVars false

namespace Bioscrape.C14
open Bioscrape.Sbml

variable {α : Type} [Field α] [LinearOrder α] [IsStrictOrderedRing α] [Transc α] [LawfulTransc α]

/-! ### dedup-and-count against the reactant list -/

def prodFallS (x : String → α) (sp : List (String × Nat)) : α :=
  (sp.map (fun sc => ((List.range sc.2).map (fun (i : Nat) => x sc.1 - (i : α))).prod)).prod

/-- the coefficient the document carries for species `s` (its first entry; `0` when there is none). -/
def cntS : List (String × Nat) → String → Nat
  | [], _ => 0
  | (n, c) :: rest, s => if n = s then c else cntS rest s

theorem bumpName_eq_tallyStep : bumpName = tallyStep := by
  funext sp s
  induction sp with
  | nil => rfl
  | cons sc rest ih => simp only [bumpName, tallyStep, ih]

theorem dedupCount_eq_tally (R : List String) : dedupCount R = tally R := by
  rw [dedupCount, bumpName_eq_tallyStep, tally]

theorem cntS_eq_tallyCount : cntS = tallyCount := by
  funext sp s
  induction sp with
  | nil => rfl
  | cons sc rest ih => simp only [cntS, tallyCount, ih]

/-- **document stoichiometry = multiplicity**: the coefficient written for a species is the number of times
it occurs in the reaction's reactant (or product) list. -/
theorem doc_stoich (R : List String) (s : String) : cntS (dedupCount R) s = R.count s := by
  rw [cntS_eq_tallyCount, dedupCount_eq_tally, tallyCount_tally]

/-! ### evaluating the written mass-action law -/

/-- multiplying the factors written for one reactant onto an expression multiplies its value by `x^c`
(deterministic) resp. `x (x−1) ⋯ (x−(c−1))` (stochastic). -/
theorem eval_factors_det (env : Env α) (s : String) (c : Nat) (xs : α) (hs : env s = some xs) (hc : 0 < c)
    (e0 : Expr α) (v0 : α) (h0 : Expr.eval env e0 = some v0) :
    Expr.eval env ((reactantFactors (α := α) false s c).foldl Expr.mul e0) = some (v0 * xs ^ c) := by
  rw [reactantFactors, if_neg Bool.false_ne_true]
  split_ifs with h
  · refine eval_mul_some h0 ?_
    simp only [Expr.eval, hs]
    exact congrArg some (LawfulTransc.pow_natCast' xs c)
  · obtain rfl : c = 1 := by omega
    rw [pow_one]
    exact eval_mul_some h0 hs

theorem eval_factors_stoch (env : Env α) (s : String) (c : Nat) (xs : α) (hs : env s = some xs)
    (e0 : Expr α) (v0 : α) (h0 : Expr.eval env e0 = some v0) :
    Expr.eval env ((reactantFactors (α := α) true s c).foldl Expr.mul e0)
      = some (v0 * ((List.range c).map fun (i : Nat) => xs - (i : α)).prod) := by
  rw [reactantFactors, if_pos rfl]
  refine eval_foldl_mul_map env _ _ _ (fun i _ => ?_) e0 v0 h0
  split_ifs with hi
  · rw [hi, Nat.cast_zero, sub_zero]; exact hs
  · simp only [Expr.eval, hs]; rfl

/-- **deterministic export**: the kinetic law written for a mass-action reaction evaluates, as plain
mathematics over the document's species and parameters, to `k · ∏_{s ∈ R} x_s` — the model's deterministic
rate (C01 `massAction_det`) — for reactant lists of any length and multiplicity. -/
theorem kl_massaction_det (env : Env α) (k : String) (R : List String) (x : String → α)
    (henv : ∀ s, env s = some (x s)) :
    Expr.eval env (klMassAction false k R) = some (x k * (R.map x).prod) := by
  rw [klMassAction, dedupCount_eq_tally,
    eval_foldl_mul_flatMap env _ _ (fun sc => x sc.1 ^ sc.2)
      (fun sc hsc => eval_factors_det env sc.1 sc.2 _ (henv _) (tally_pos R sc hsc)) (.ident k) _ (henv k),
    prod_tally_pow]

/-- **stochastic export**: `k · ∏_s x_s (x_s − 1) ⋯ (x_s − m_s + 1)`. -/
theorem kl_massaction_stoch (env : Env α) (k : String) (R : List String) (x : String → α)
    (henv : ∀ s, env s = some (x s)) :
    Expr.eval env (klMassAction true k R) = some (x k * prodFallS x (dedupCount R)) :=
  eval_foldl_mul_flatMap env _ _ _ (fun sc _ => eval_factors_stoch env sc.1 sc.2 _ (henv _)) _ _ (henv k)

/-- on non-negative integer counts the written product `n (n−1) ⋯ (n−c+1)` is the guarded falling factorial
of the simulator (C01 `ff`): with fewer than `c` copies one factor is exactly zero. -/
theorem fall_unguarded_nat (n c : Nat) :
    ((List.range c).map (fun (i : Nat) => ((n : α) - (i : α)))).prod = ff (n : α) c := by
  induction c with
  | zero => rfl
  | succ c ih =>
    rw [List.prod_range_succ, ih, ff_succ]
    rcases le_or_gt c n with h | h
    · rw [← Nat.cast_sub h, max_eq_left (Nat.cast_nonneg _)]
    · rw [C01.ff_eq_zero_of_lt n c h, zero_mul, zero_mul]

/-- general rates are written verbatim: the kinetic law *is* the rate expression (C02 gives its meaning). -/
theorem kl_general (e : Expr α) : (fun (rate : Expr α) => rate) e = e := rfl

/-- a general rate without a step function, read as plain SBML mathematics, has the value of the written formula. -/
theorem kl_general_stepfree (env : Env α) (e : Expr α) (h : hasStep e = false) : docEval env e = Expr.eval env e := by
  simp [docEval, h]

/-- (known finding) a general rate that contains `Heaviside` is exported as a call of a function the document does
not define: read as plain SBML mathematics it has no value, whatever the state. -/
theorem kl_general_step_undefined (env : Env α) (e : Expr α) (h : hasStep e = true) : docEval env e = none := by
  simp [docEval, h]

example : hasStep (Expr.mul (.ident "k") (.step (.sub (.ident "A") (.num (2 : Rat))))) = true := by decide
example : hasStep (Expr.mul (.ident "k") (.log (.add (.ident "A") (.num (1 : Rat))))) = false := by decide

/-! ### Hill family: the full statement fails on this tree (known finding) -/

/-- the written Hill law mentions the identifier `n`, which the document does not define: read as plain SBML
mathematics over the exported species and parameters it has no value at all. -/
theorem kl_hill_undefined_identifier (env : Env α) (ptype k K nparam s1 d : String) (hn : env "n" = none)
    (hpt : ptype = "hillpositive" ∨ ptype = "proportionalhillpositive") :
    Expr.eval env (klHill (α := α) ptype k K nparam s1 d) = none := by
  -- both laws are `(a * s1 ^ n) / den`, and an operator has no value when an argument has none
  have key : ∀ a den : Expr α, Expr.eval env (.div (.mul a (.pow (.ident s1) (.ident "n"))) den) = none :=
    fun a den => by
      simp only [Expr.eval, hn]
      cases Expr.eval env a <;> cases env s1 <;> rfl
  rcases hpt with rfl | rfl <;> simp only [klHill] <;> exact key _ _

/-- and where it has a value the constant is `K`, not `K^n`: `hillnegative`, `k = 2, K = 3, n = 2, s = 4`
evaluates to `2/(16+3)`, the model's rate is `2/(1+(4/3)^2) = 18/25`. -/
theorem kl_hill_wrong_constant :
    (2 : ℚ) / (4 ^ 2 + 3) ≠ 2 / (1 + (4 / 3) ^ 2) := by norm_num

/-- **the written deterministic law does not depend on the order the reactants were listed in**: `A + B → …` and
`B + A → …` (any length, any multiplicities) export kinetic laws of the same value at every state. -/
theorem kl_massaction_det_perm (env : Env α) (k : String) (R R' : List String) (x : String → α)
    (henv : ∀ s, env s = some (x s)) (h : R.Perm R') :
    Expr.eval env (klMassAction false k R) = Expr.eval env (klMassAction false k R') := by
  rw [kl_massaction_det env k R x henv, kl_massaction_det env k R' x henv, (h.map x).prod_eq]

/-- a reaction without reactants (`∅ → X`) exports the bare rate constant in both kinds of export. -/
theorem kl_massaction_source (env : Env α) (k : String) (x : String → α) (henv : ∀ s, env s = some (x s)) :
    Expr.eval env (klMassAction false k []) = some (x k) ∧ Expr.eval env (klMassAction true k []) = some (x k) :=
  ⟨henv k, henv k⟩

/-- **what is proved** (`kl_det_partial`): for mass-action reactions of any order and multiplicity the
written law equals the model's deterministic rate in a deterministic export and the combinatorial rate in a
stochastic export; the Hill family is excluded (see above). -/
theorem kl_det_partial (env : Env α) (k : String) (R : List String) (x : String → α)
    (henv : ∀ s, env s = some (x s)) :
    Expr.eval env (klMassAction false k R) = some (x k * (R.map x).prod)
    ∧ Expr.eval env (klMassAction true k R) = some (x k * prodFallS x (dedupCount R)) :=
  ⟨kl_massaction_det env k R x henv, kl_massaction_stoch env k R x henv⟩

end Bioscrape.C14
