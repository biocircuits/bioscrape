import BioscrapeModel.Proofs.Sbml
import BioscrapeModel.Proofs.PowText

/-
C13 — an imported SBML file has the semantics of the SBML document.
-/

namespace Bioscrape.C13
open Bioscrape.Sbml

variable {α : Type}

/-! ### Rules: any number, any order -/

def isAssign (known : String → Bool) (r : SbmlRule α) : Bool := known r.var && r.kind == .assignment
def isRate (known : String → Bool) (r : SbmlRule α) : Bool := known r.var && r.kind == .rate

theorem importStep_eq (known : String → Bool) (acc : Imported α) (r : SbmlRule α) :
    importStep known acc r =
      { assignments := if isAssign known r then acc.assignments ++ [(r.var, r.math)] else acc.assignments,
        rateReactions := if isRate known r then acc.rateReactions ++ [(r.var, r.math)] else acc.rateReactions } := by
  unfold importStep isAssign isRate
  cases known r.var <;> cases r.kind <;> rfl

theorem importRules_acc (known : String → Bool) (rules : List (SbmlRule α)) (acc : Imported α) :
    rules.foldl (importStep known) acc
      = { assignments := acc.assignments ++ (rules.filter (isAssign known)).map (fun r => (r.var, r.math)),
          rateReactions := acc.rateReactions ++ (rules.filter (isRate known)).map (fun r => (r.var, r.math)) } := by
  induction rules generalizing acc with
  | nil => simp
  | cons r rest ih =>
    rw [List.foldl_cons, ih, importStep_eq, List.filter_cons, List.filter_cons]
    split <;> split <;> simp

/-- **every assignment rule becomes a repeated assignment, every rate rule contributes its formula exactly
once to its variable and to nothing else** — for any number and any order of rules: the imported
assignments are exactly the document's assignment rules in order, the extra reactions `∅ → variable` are
exactly the document's rate rules in order, and nothing carries over from one rule to the next. -/
theorem importRules_spec (known : String → Bool) (rules : List (SbmlRule α)) :
    (importRules known rules).assignments = (rules.filter (isAssign known)).map (fun r => (r.var, r.math))
    ∧ (importRules known rules).rateReactions = (rules.filter (isRate known)).map (fun r => (r.var, r.math)) := by
  rw [importRules, importRules_acc]
  exact ⟨List.nil_append _, List.nil_append _⟩

/-- **rules are imported one by one**: what a document contributes is what its first part contributes followed by what
the rest contributes — no rule's import depends on the rules before it (the defect repaired on this tree was exactly a
carry-over between consecutive rules). -/
theorem importRules_append (known : String → Bool) (r1 r2 : List (SbmlRule α)) :
    (importRules known (r1 ++ r2)).assignments
        = (importRules known r1).assignments ++ (importRules known r2).assignments
    ∧ (importRules known (r1 ++ r2)).rateReactions
        = (importRules known r1).rateReactions ++ (importRules known r2).rateReactions := by
  simp only [(importRules_spec known _).1, (importRules_spec known _).2, List.filter_append, List.map_append,
    and_self]

/-- inserting, removing or moving rate rules (or algebraic rules, or rules for unknown variables) anywhere in the
document leaves the imported assignments untouched, and vice versa. -/
theorem assignments_only_from_assignment_rules (known : String → Bool) (rules rules' : List (SbmlRule α))
    (h : rules.filter (isAssign known) = rules'.filter (isAssign known)) :
    (importRules known rules).assignments = (importRules known rules').assignments := by
  rw [(importRules_spec known rules).1, (importRules_spec known rules').1, h]

theorem rateReactions_only_from_rate_rules (known : String → Bool) (rules rules' : List (SbmlRule α))
    (h : rules.filter (isRate known) = rules'.filter (isRate known)) :
    (importRules known rules).rateReactions = (importRules known rules').rateReactions := by
  rw [(importRules_spec known rules).2, (importRules_spec known rules').2, h]

/-- the number of reactions created for rate rules is the number of rate rules (none doubled, none lost). -/
theorem rate_rule_once (known : String → Bool) (rules : List (SbmlRule α)) :
    (importRules known rules).rateReactions.length = (rules.filter (isRate known)).length := by
  rw [(importRules_spec known rules).2]; simp

/-- a rate-rule reaction `∅ → v` changes `v` by `+1 · formula` and no other species. -/
theorem rate_reaction_stoich (v s : String) :
    dictGet (updateDict [] [v]) s = if s = v then 1 else 0 :=
  if_congr eq_comm rfl rfl

/-! ### Integer stoichiometries -/

/-- a species reference with stoichiometry `n` (1, 2, 3, …) is honoured: the reactant list handed to the
model contains the species `n` times (per reference; references to the same species add up). -/
theorem expand_count (refs : List (String × Nat)) (s : String) :
    (expand refs).count s = ((refs.filter (fun r => r.1 = s)).map (·.2)).sum := by
  induction refs with
  | nil => rfl
  | cons r rest ih =>
    rw [count_expand_cons, ih, List.filter_cons]
    by_cases h : r.1 = s <;> simp [h]

/-! ### Initial amount and concentration -/

theorem initial_amount_precedence [Zero α] [DecidableEq α] (a c : α) (ha : a ≠ 0) :
    initialValue (some a) (some c) = a :=
  if_neg ha

theorem initial_concentration_when_no_amount [Zero α] [DecidableEq α] (c : α) :
    initialValue (none : Option α) (some c) = c ∧ initialValue (some (0 : α)) (some c) = c :=
  ⟨if_pos rfl, if_pos rfl⟩

theorem initial_amount_only [Zero α] [DecidableEq α] (a : α) : initialValue (some a) none = a := rfl

/-! ### Local parameters bind only in their reaction -/

/-- an environment that gives the new name the old one's value and agrees elsewhere is the old environment read through
the renaming. -/
theorem renamed_env (old new : String) (env env' : Env α) (hnew : env' new = env old)
    (hother : ∀ s, s ≠ old → env' s = env s) : (fun s => env' (if s = old then new else s)) = env :=
  funext fun s => by
    split
    · next h => rw [hnew, h]
    · next h => exact hother s h

section rename
variable [Zero α] [One α] [Add α] [Sub α] [Mul α] [Div α] [Neg α]
  [LT α] [LE α] [DecidableLT α] [DecidableLE α] [Transc α]

/-- renaming a local parameter to a fresh global name does not change what the kinetic law means: the law
evaluated among the model's globals (where the renamed parameter carries the local's value) equals the
law evaluated in the reaction's own scope (globals shadowed by the local). -/
theorem rename_eval (old new : String) (env env' : Env α) (hnew : env' new = env old)
    (hother : ∀ s, s ≠ old → env' s = env s) :
    ∀ e : Expr α, Expr.eval env' (rename old new e) = Expr.eval env e :=
  fun e => by rw [eval_rename, renamed_env old new env env' hnew hother]

theorem renameList_eval (old new : String) (env env' : Env α) (hnew : env' new = env old)
    (hother : ∀ s, s ≠ old → env' s = env s) :
    ∀ es : List (Expr α), Expr.evalList env' (rename.renameList old new es) = Expr.evalList env es :=
  fun es => by rw [evalList_renameList, renamed_env old new env env' hnew hother]

end rename

/-- a local parameter whose id clashes is renamed `id_reactionId`; one that does not clash keeps its id. -/
theorem importLocals_clash (rxnId k : String) (v : α) (taken : List String) (law : Expr α) (h : k ∈ taken) :
    importLocals rxnId taken [(k, v)] law = ([(k ++ "_" ++ rxnId, v)], rename k (k ++ "_" ++ rxnId) law) := by
  rw [importLocals_singleton, if_pos h]

theorem importLocals_fresh (rxnId k : String) (v : α) (taken : List String) (law : Expr α) (h : k ∉ taken) :
    importLocals rxnId taken [(k, v)] law = ([(k, v)], law) := by
  rw [importLocals_singleton, if_neg h]

/-! ### Non-vacuity: a rate rule after an assignment rule, then another assignment rule -/
example : (importRules (α := ℚ) (fun _ => true)
    [⟨.assignment, "S", .ident "A"⟩, ⟨.rate, "X", .num 2⟩, ⟨.assignment, "T", .ident "B"⟩]).assignments.map (·.1) = ["S", "T"]
  ∧ (importRules (α := ℚ) (fun _ => true)
    [⟨.assignment, "S", .ident "A"⟩, ⟨.rate, "X", .num 2⟩, ⟨.assignment, "T", .ident "B"⟩]).rateReactions.map (·.1) = ["X"] :=
  ⟨rfl, rfl⟩

/-! ### The text between the document and the importer: powers

`Model/PowText.lean`: libsbml's printer (`printL3`) and the reader of its text (`readE`).  For **every** expression tree the
reader returns `readBack e` — the left spine of every power re-associated to the right (`read_print_readBack`, from
`readE_printL3` of `Proofs/PowText.lean`, which also gives the fuel: `size e` suffices); that is the tree
that was written exactly when no power has a power as its base (`readBack_eq_iff`), and never otherwise
(`pow_of_pow_misread`: the known finding, for every instance).  The check compares `printL3` with
`libsbml.formulaToL3String` and the importer's rate with the value of `readBack e` on every tree shape up to three powers. -/

open Bioscrape.PowText

theorem readE_mono : ∀ (f : Nat) (ts : List PTok) (r : PowTree × List PTok), readE f ts = some r → readE (f + 1) ts = some r := by
  intro f
  induction f with
  | zero => intro ts r h; cases h
  | succ f ih =>
    intro ts r h
    rw [readE_succ] at h ⊢
    cases hp : readPrim f ts with
    | none => rw [hp] at h; cases h
    | some p => rw [hp] at h; rw [readPrim_mono ih hp]; exact readTail_mono ih h

theorem readE_mono_le (f f' : Nat) (hle : f ≤ f') (ts : List PTok) (r : PowTree × List PTok) (h : readE f ts = some r) :
    readE f' ts = some r := by
  induction hle with
  | refl => exact h
  | step _ ih => exact readE_mono _ _ _ ih

/-- reads of this text succeed with every large enough amount of fuel. -/
def Reads (ts : List PTok) (e : PowTree) (rest : List PTok) : Prop := ∃ F, ∀ fuel, F ≤ fuel → readE fuel ts = some (e, rest)

/-- **what the round trip returns, for every tree**: the text of `e` is read as `readBack e`. -/
theorem read_print_readBack (e : PowTree) : Reads (printL3 e) (readBack e) [] :=
  ⟨size e, readE_printL3 e⟩

/-- **the round trip returns the tree that was written exactly when no power has a power as its base.** -/
theorem readBack_eq_iff (e : PowTree) : readBack e = e ↔ leftAtomic e = true := by
  induction e with
  | atom n => exact iff_of_true rfl rfl
  | pow a b _ ihb =>
    cases a with
    | atom n =>
      rw [readBack_pow_atom, leftAtomic, PowTree.pow.injEq, ← ihb]
      exact and_iff_right rfl
    | pow a1 a2 =>
      -- read back, a power of a power has an identifier as its base
      refine iff_of_false (fun h => ?_) Bool.false_ne_true
      obtain ⟨n, r, hs⟩ := normAcc_some_shape (.pow a1 a2) (normAcc b none)
      exact PowTree.noConfusion (hs.symm.trans h) fun ha _ => PowTree.noConfusion ha

/-- a power of a power is never returned as written. -/
theorem pow_of_pow_misread (a1 a2 b : PowTree) : readBack (.pow (.pow a1 a2) b) ≠ .pow (.pow a1 a2) b :=
  fun h => Bool.false_ne_true ((readBack_eq_iff _).mp h)

/-- **round trip on the fragment the printer writes unambiguously** -/
theorem roundtrip_leftAtomic (e : PowTree) (h : leftAtomic e = true) : readE (size e) (printL3 e) = some (e, []) := by
  rw [readE_printL3 e (size e) (Nat.le_refl _), (readBack_eq_iff e).mpr h]

/-- **the finding**: a power of a power is written `x^y^z` and read back as `x^(y^z)`. -/
theorem misread (x y z : Nat) :
    readE 5 (printL3 (.pow (.pow (.atom x) (.atom y)) (.atom z))) = some (.pow (.atom x) (.pow (.atom y) (.atom z)), []) :=
  readE_printL3 _ 5 (Nat.le_refl 5)

/-- the two trees differ, so the round trip does not return what was written. -/
theorem misread_ne (x y z : Nat) :
    (PowTree.pow (.pow (.atom x) (.atom y)) (.atom z)) ≠ .pow (.atom x) (.pow (.atom y) (.atom z)) := by
  intro h; cases h
end Bioscrape.C13
