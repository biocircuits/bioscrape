import BioscrapeModel.Proofs.Propensity
import BioscrapeModel.Model.Network

/-
C01 — built-in rate laws equal their documented closed forms.

Property theorems (helper lemmas about the model alone live in `Proofs/Propensity.lean`).  They are
stated over any linearly ordered field with lawful `pow` (in particular `ℝ`), for
reactant lists of *any* length; orders 0..4 are instances.
-/
set_option linter.unusedSectionVars false


namespace Bioscrape.C01

variable {α : Type} [Field α] [LinearOrder α] [IsStrictOrderedRing α]

/-! ### The documented closed forms (specification, written independently of the loops) -/

/-- deterministic mass action: `k · ∏_{s ∈ R} x s` (`= k · ∏ x s ^ mult s`). -/
def detSpec (k : α) (x : Nat → α) (R : List Nat) : α := k * (R.map x).prod

/-- stochastic mass action: `k · ∏_{s distinct in R} x_s (x_s − 1) ⋯ (x_s − m_s + 1)`, every
factor clipped at `0`, `m_s` the multiplicity of `s` in `R`. -/
def stochSpec (k : α) (x : Nat → α) (R : List Nat) : α :=
  k * ∏ s ∈ R.toFinset, ff (x s) (R.count s)

/-- volume scaling of an order-`r` mass-action rate: `·V` for `r = 0`, `/V^(r-1)` otherwise. -/
def volScale (V : α) (r : Nat) : α := if r = 0 then V else 1 / V ^ (r - 1)

/-! ### Falling factorial facts -/

/-- fewer than `m` copies present ⇒ the stochastic mass-action factor is zero. -/
theorem ff_eq_zero_of_lt (n m : Nat) (h : n < m) : ff (n : α) m = 0 :=
  List.prod_eq_zero (List.mem_map.2 ⟨n, List.mem_range.2 h, by rw [sub_self, max_self]⟩)

/-- with at least `m` copies the guarded product is the falling factorial `n!/(n-m)!`. -/
theorem ff_nat (n m : Nat) (h : m ≤ n) : ff (n : α) m = (n.descFactorial m : α) := by
  induction m with
  | zero => rw [ff_zero, Nat.descFactorial_zero, Nat.cast_one]
  | succ m ih =>
    have hm : m ≤ n := Nat.le_of_succ_le h
    rw [ff_succ, ih hm, Nat.descFactorial_succ, ← Nat.cast_sub hm, max_eq_left (Nat.cast_nonneg _), Nat.cast_mul,
      mul_comm]

/-! ### Mass action built from a reactant list -/

variable [Transc α]

/-- **deterministic mass action**: for a reactant list of any length and any multiplicities,
the propensity built by `create_reaction` evaluates to `k · ∏_{s∈R} x_s`. -/
theorem massAction_det (k : Nat) (R : List Nat) (x p : Nat → α) (t : α) :
    (createMassAction (α := α) k R).det x p t = detSpec (p k) x R := by
  rw [createMassAction_det, massActionDet_initLoop, detSpec]

/-- **stochastic mass action**: `k · ∏_{s distinct} ff (x_s) (mult s)`, i.e. the falling
factorial `x(x−1)…(x−m+1)` per species, zero when fewer than `m` copies are present
(`ff_eq_zero_of_lt`, `ff_nat`). -/
theorem massAction_stoch (k : Nat) (R : List Nat) (x p : Nat → α) (t : α) (hx : ∀ s, 0 ≤ x s) :
    (createMassAction (α := α) k R).stoch x p t = stochSpec (p k) x R := by
  rw [createMassAction_stoch k R x p t hx, massActionStoch_initLoop, stochSpec]

/-! ### Sign and support of the stochastic mass-action propensity -/

/-- the clipped falling factorial is never negative, at integer or non-integer amounts. -/
theorem ff_nonneg (y : α) (m : Nat) : 0 ≤ ff y m := by
  induction m with
  | zero => rw [ff_zero]; exact zero_le_one
  | succ m ih => rw [ff_succ]; exact mul_nonneg ih (le_max_right _ _)

/-- **a stochastic mass-action propensity is never negative** when its rate constant is not, for reactant lists of any
length and multiplicity and any non-negative state (the hypothesis under which the SSA loop's choice intervals are
well formed, `C05.choice_measure`). -/
theorem massAction_stoch_nonneg (k : Nat) (R : List Nat) (x p : Nat → α) (t : α) (hx : ∀ s, 0 ≤ x s)
    (hk : 0 ≤ p k) : 0 ≤ (createMassAction (α := α) k R).stoch x p t := by
  rw [massAction_stoch k R x p t hx, stochSpec]
  exact mul_nonneg hk (Finset.prod_nonneg (fun s _ => ff_nonneg _ _))

/-- **a reaction short of a reactant cannot fire**: if some reactant species is present in fewer whole copies than the
reaction consumes, the propensity is exactly zero (so the SSA never selects it: `zero_weight_not_chosen`). -/
theorem massAction_stoch_zero_of_short (k : Nat) (R : List Nat) (x p : Nat → α) (t : α) (hx : ∀ s, 0 ≤ x s)
    (s : Nat) (hs : s ∈ R) (n : Nat) (hn : x s = (n : α)) (hshort : n < R.count s) :
    (createMassAction (α := α) k R).stoch x p t = 0 := by
  rw [massAction_stoch k R x p t hx, stochSpec,
    Finset.prod_eq_zero (List.mem_toFinset.mpr hs) (by rw [hn]; exact ff_eq_zero_of_lt n _ hshort), mul_zero]

/-! ### Volume forms -/

variable [LawfulTransc α]

theorem volScale_succ (V : α) (r : Nat) : volScale V (r + 1) = 1 / V ^ r := if_neg r.succ_ne_zero

/-- in every class `create_reaction` picks, both volume forms are the plain forms times `volScale`. -/
theorem createMassAction_vol (k : Nat) (R : List Nat) (x p : Nat → α) (V t : α) :
    (createMassAction (α := α) k R).vol x p V t = (createMassAction (α := α) k R).det x p t * volScale V R.length
    ∧ (createMassAction (α := α) k R).svol x p V t
        = (createMassAction (α := α) k R).stoch x p t * volScale V R.length := by
  rcases R with _ | ⟨a, _ | ⟨b, _ | ⟨c, rest⟩⟩⟩
  · exact ⟨rfl, rfl⟩
  · have h : ∀ y : α, y = y * volScale V 1 := fun y => by rw [volScale_succ, pow_zero, div_one, mul_one]
    exact ⟨h _, h _⟩
  · have h : ∀ y : α, y / V = y * volScale V 2 := fun y => by rw [volScale_succ, pow_one, mul_one_div]
    -- `svol` divides inside the `if` that tells `A + B` from `2A`
    exact ⟨h _, (apply_ite (· / V) _ _ _).symm.trans (h _)⟩
  · have h : ∀ y : α, y / Transc.pow V (((c :: b :: a :: rest).length - 1 : Nat) : α)
        = y * volScale V (c :: b :: a :: rest).length := fun y => by
      rw [LawfulTransc.pow_natCast', List.length_cons, volScale_succ, Nat.add_sub_cancel, mul_one_div]
    simp only [createMassAction, massActionInitLoop_numSpecies]
    exact ⟨h _, h _⟩

/-- **volume form**: an order-`r` mass-action rate is divided by `V^(r−1)`; a zero-order rate is
multiplied by `V`. -/
theorem massAction_vol (k : Nat) (R : List Nat) (x p : Nat → α) (V t : α) (hV : 0 < V) :
    (createMassAction (α := α) k R).vol x p V t = detSpec (p k) x R * volScale V R.length := by
  rw [(createMassAction_vol k R x p V t).1, massAction_det]

/-- **stochastic volume form**. -/
theorem massAction_svol (k : Nat) (R : List Nat) (x p : Nat → α) (V t : α) (hx : ∀ s, 0 ≤ x s) :
    (createMassAction (α := α) k R).svol x p V t = stochSpec (p k) x R * volScale V R.length := by
  rw [(createMassAction_vol k R x p V t).2, massAction_stoch k R x p t hx]

/-! ### The rate depends on the reactant *multiset* only -/

/-- **however the reactants are listed** (a repeated species next to its copy or with other species in between), the
deterministic mass-action rate is the same. -/
theorem massAction_det_perm (k : Nat) (R R' : List Nat) (h : R.Perm R') (x p : Nat → α) (t : α) :
    (createMassAction (α := α) k R).det x p t = (createMassAction (α := α) k R').det x p t := by
  rw [massAction_det, massAction_det, detSpec, detSpec, (h.map x).prod_eq]

/-- the same for the stochastic rate (falling factorials per distinct species). -/
theorem massAction_stoch_perm (k : Nat) (R R' : List Nat) (h : R.Perm R') (x p : Nat → α) (t : α) (hx : ∀ s, 0 ≤ x s) :
    (createMassAction (α := α) k R).stoch x p t = (createMassAction (α := α) k R').stoch x p t := by
  rw [massAction_stoch k R x p t hx, massAction_stoch k R' x p t hx, stochSpec, stochSpec,
    List.toFinset_eq_of_perm _ _ h]
  simp only [h.count_eq]

example : [0, 1, 0].Perm [0, 0, 1] := by decide

/-! ### Hill family -/

/-- the Hill ratio `u = (s/K)^n`. -/
def hillU (s K n : α) : α := Transc.pow (s / K) n

theorem hillPos_det (k K n s1 : Nat) (x p : Nat → α) (t : α) :
    (Propensity.hillPos (α := α) k K n s1).det x p t
      = p k * hillU (x s1) (p K) (p n) / (1 + hillU (x s1) (p K) (p n)) := rfl

theorem hillNeg_det (k K n s1 : Nat) (x p : Nat → α) (t : α) :
    (Propensity.hillNeg (α := α) k K n s1).det x p t = p k / (1 + hillU (x s1) (p K) (p n)) := by
  rw [← mul_one (p k)]; rfl

theorem propHillPos_det (k K n s1 d : Nat) (x p : Nat → α) (t : α) :
    (Propensity.propHillPos (α := α) k K n s1 d).det x p t
      = p k * x d * hillU (x s1) (p K) (p n) / (1 + hillU (x s1) (p K) (p n)) := rfl

theorem propHillNeg_det (k K n s1 d : Nat) (x p : Nat → α) (t : α) :
    (Propensity.propHillNeg (α := α) k K n s1 d).det x p t
      = p k * x d / (1 + hillU (x s1) (p K) (p n)) := by
  rw [← mul_one (p k * x d)]; rfl

/-- with a volume, Hill terms act on the concentration `s/V` (and only the Hill species is scaled). -/
theorem hillPos_vol (k K n s1 : Nat) (x p : Nat → α) (V t : α) :
    (Propensity.hillPos (α := α) k K n s1).vol x p V t
      = p k * hillU (x s1 / V) (p K) (p n) / (1 + hillU (x s1 / V) (p K) (p n)) := rfl

theorem hillNeg_vol (k K n s1 : Nat) (x p : Nat → α) (V t : α) :
    (Propensity.hillNeg (α := α) k K n s1).vol x p V t
      = p k / (1 + hillU (x s1 / V) (p K) (p n)) := by
  rw [← mul_one (p k)]; rfl

theorem propHillPos_vol (k K n s1 d : Nat) (x p : Nat → α) (V t : α) :
    (Propensity.propHillPos (α := α) k K n s1 d).vol x p V t
      = p k * x d * hillU (x s1 / V) (p K) (p n) / (1 + hillU (x s1 / V) (p K) (p n)) := by
  rw [mul_comm (p k)]; rfl

theorem propHillNeg_vol (k K n s1 d : Nat) (x p : Nat → α) (V t : α) :
    (Propensity.propHillNeg (α := α) k K n s1 d).vol x p V t
      = p k * x d / (1 + hillU (x s1 / V) (p K) (p n)) := by
  rw [mul_comm (p k), ← mul_one (x d * p k)]; rfl

/-- Hill types have no separate stochastic form. -/
theorem hill_stoch_eq_det (k K n s1 : Nat) (x p : Nat → α) (t : α) :
    (Propensity.hillPos (α := α) k K n s1).stoch x p t = (Propensity.hillPos (α := α) k K n s1).det x p t
    ∧ (Propensity.hillNeg (α := α) k K n s1).stoch x p t = (Propensity.hillNeg (α := α) k K n s1).det x p t :=
  ⟨rfl, rfl⟩

/-! ### Interfaces -/

/-- the plain interface evaluates each reaction's propensity in the requested mode. -/
theorem plain_interface (m : Mode) (props : List (Propensity α)) (x p : Nat → α) (V t : α) (r : Nat)
    (hr : r < props.length) :
    (computePropensities m props x p V t)[r]'(by simpa [computePropensities] using hr)
      = (props[r]).evalMode m x p V t := by
  simp [computePropensities]

/-- the safe interface returns the same stochastic value whenever it does not block the reaction and
the value is non-negative; a blocked reaction reads exactly `0`. -/
theorem safe_interface (m : Mode) (inputs : List (Nat × Int)) (q : Propensity α) (x p : Nat → α) (V t : α) :
    (safeBlocked inputs x = false → 0 ≤ q.evalMode m x p V t →
        safeStochOne m inputs x p V t q = q.evalMode m x p V t)
    ∧ (safeBlocked inputs x = true → safeStochOne m inputs x p V t q = 0) := by
  constructor
  · intro hb hn
    simp [safeStochOne, hb, not_lt.mpr hn]
  · intro hb
    simp [safeStochOne, hb]

/-! ### Non-vacuity: `G + 2A`, `x = (3, 5)`, `k = 2`, `V = 2` gives 150, 120, 37.5 -/

example : detSpec (2 : ℚ) (fun i => if i = 0 then 3 else 5) [0, 1, 1] = 150 := by
  norm_num [detSpec]
example : stochSpec (2 : ℚ) (fun i => if i = 0 then 3 else 5) [0, 1, 1] = 120 := by
  have h : ([0, 1, 1] : List ℕ).toFinset = {0, 1} := by decide
  rw [stochSpec, h, Finset.prod_pair (by decide)]
  norm_num [ff_succ, ff_zero]
example : detSpec (2 : ℚ) (fun i => if i = 0 then 3 else 5) [0, 1, 1] * volScale 2 3 = 75 / 2 := by
  norm_num [detSpec, volScale]

/-- non-vacuity of `massAction_stoch_zero_of_short` / `massAction_stoch_nonneg`: `2A → …` with a single copy of `A`. -/
example : (createMassAction (α := ℚ) 0 [0, 0]).stoch (fun _ => 1) (fun _ => 2) 0 = 0
    ∧ 0 ≤ (createMassAction (α := ℚ) 0 [0, 0, 1]).stoch (fun _ => 5) (fun _ => 2) 0 :=
  ⟨massAction_stoch_zero_of_short 0 [0, 0] (fun _ => 1) (fun _ => 2) 0 (by intro s; norm_num) 0 (by simp) 1 (by norm_num)
      (by decide),
   massAction_stoch_nonneg 0 [0, 0, 1] (fun _ => 5) (fun _ => 2) 0 (by intro s; norm_num) (by norm_num)⟩

end Bioscrape.C01
