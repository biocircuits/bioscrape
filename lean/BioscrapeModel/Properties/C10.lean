import BioscrapeModel.Properties.C06

/-
C10 — delayed reactions deliver their delayed part exactly once, after the delay.

Branch by branch, what one iteration of the delay loop (and of the delay+volume loop) does with the immediate and
the delayed part of a firing; all branches together as `QueueStep`, from which: every queue operation the loop
performs is an operation of the queue verified in C20 (so `queue_exactly_once` applies to the insertions the loop
makes), and — for whole runs without rules — the reported state plus everything still queued accounts for every
firing exactly once (`delay_run_accounting`, `delay_run_conservation`).  The delay samplers are exact functional
forms of the stream.
-/
set_option linter.unusedSectionVars false

namespace Bioscrape.C10
open Bioscrape.C05

variable {σ α : Type} [Field α] [LinearOrder α] [IsStrictOrderedRing α] [Transc α] [Trunc α]

/-- delivery of the earliest queue slot: every reaction's pending amount times its delayed column. -/
def deliver (m : SimModel α) (q : DQ α) (x : List α) : List α :=
  (List.range m.props.length).foldl (fun x r => addScaledCol x (q.nextReactions.getD r 0) (colOf m.D r)) x

/-! ### What one iteration of the delay loop does with the two parts of a reaction -/

/-- **the queue comes first**: when the next queue time precedes the proposed time, the earliest slot
is delivered — each pending amount times the reaction's *delayed* stoichiometry — the queue is
advanced (so that slot can never be delivered again, `DQ.pending_advance`), the clock is the slot's
time, and no reaction fires in this iteration. -/
theorem delay_queue_branch (g : Gen σ α) (m : SimModel α) (times : List α) (s : LoopState σ α)
    (d : DelayDecision σ α) (hq : d.toQueue = true) :
    (delayApply g m times s d).x = deliver m s.q d.x ∧ (delayApply g m times s d).q = s.q.advance
      ∧ (delayApply g m times s d).t = d.tNew ∧ (delayApply g m times s d).g = d.gs := by
  unfold delayApply deliver
  simp [hq]

/-- the decision takes the queue branch exactly when the next queue time is strictly earlier than the
(capped) proposed reaction time, and then the clock moves to that queue time. -/
theorem delayDecide_queue (g : Gen σ α) (m : SimModel α) (times : List α) (s : LoopState σ α)
    (h : (delayDecide g m times s).toQueue = true) :
    (delayDecide g m times s).tNew = s.q.next ∧ (delayDecide g m times s).fired = false := by
  unfold delayDecide at h ⊢
  dsimp only at h ⊢
  constructor <;> rw [if_pos h]

/-- **a firing with a positive delay**: the immediate stoichiometry is applied at the firing time and
the delayed part is inserted once into the queue for `firing time + delay`. -/
theorem delay_fire_positive (g : Gen σ α) (m : SimModel α) (times : List α) (s : LoopState σ α)
    (d : DelayDecision σ α) (hq : d.toQueue = false) (hf : d.fired = true)
    (j : Nat) (hj : sampleDiscreteFrom d.a ((g d.gs).1 * d.Lambda) = (j : Int))
    (delay : α) (g3 : σ) (hd : computeDelay g m d.p j (g d.gs).2 = some (delay, g3)) (hpos : 0 < delay) :
    (delayApply g m times s d).x = addCol d.x (colOf m.U j)
      ∧ (delayApply g m times s d).q = s.q.add (d.tNew + delay) j 1
      ∧ (delayApply g m times s d).t = d.tNew := by
  unfold delayApply
  have hnn : ¬ ((j : Int) < 0) := by omega
  simp [hq, hf, hj, hnn, hd, hpos]

/-- **a non-positive delay acts as zero delay** (e.g. a negative Gaussian draw): both parts are applied
at the firing time and nothing is queued. -/
theorem delay_fire_nonpositive (g : Gen σ α) (m : SimModel α) (times : List α) (s : LoopState σ α)
    (d : DelayDecision σ α) (hq : d.toQueue = false) (hf : d.fired = true)
    (j : Nat) (hj : sampleDiscreteFrom d.a ((g d.gs).1 * d.Lambda) = (j : Int))
    (delay : α) (g3 : σ) (hd : computeDelay g m d.p j (g d.gs).2 = some (delay, g3)) (hneg : delay ≤ 0) :
    (delayApply g m times s d).x = addCol (addCol d.x (colOf m.U j)) (colOf m.D j)
      ∧ (delayApply g m times s d).q = s.q
      ∧ (delayApply g m times s d).t = d.tNew := by
  unfold delayApply
  have hnn : ¬ ((j : Int) < 0) := by omega
  have hnp : ¬ (delay > 0) := not_lt.mpr hneg
  simp [hq, hf, hj, hnn, hd, hnp]

/-- what one iteration of a loop with a delay queue may do to the state `x` and the queue `q`: deliver the earliest slot;
or change neither (no reaction fires, a volume tick, or a sampler fails); or fire one reaction `j` of the model, whose
delayed part is queued once (positive delay) or applied at once with the immediate part. -/
def QueueStep (m : SimModel α) (x a : List α) (q : DQ α) (x' : List α) (q' : DQ α) : Prop :=
  (x' = deliver m q x ∧ q' = q.advance) ∨ (x' = x ∧ q' = q) ∨
    ∃ j, j < a.length ∧ ((∃ t, x' = addCol x (colOf m.U j) ∧ q' = q.add t j 1)
      ∨ (x' = addCol (addCol x (colOf m.U j)) (colOf m.D j) ∧ q' = q))

theorem QueueStep.queue_ops {m : SimModel α} {x a x' : List α} {q q' : DQ α} (h : QueueStep m x a q x' q') :
    q' = q ∨ q' = q.advance ∨ ∃ t j, q' = q.add t j 1 := by
  rcases h with ⟨-, hq⟩ | ⟨-, hq⟩ | ⟨j, -, ⟨t, -, hq⟩ | ⟨-, hq⟩⟩
  · exact Or.inr (Or.inl hq)
  · exact Or.inl hq
  · exact Or.inr (Or.inr ⟨t, j, hq⟩)
  · exact Or.inl hq

theorem delayApply_cases (g : Gen σ α) (m : SimModel α) (times : List α) (s : LoopState σ α) (d : DelayDecision σ α) :
    QueueStep m d.x d.a s.q (delayApply g m times s d).x (delayApply g m times s d).q := by
  unfold QueueStep delayApply deliver
  dsimp only
  generalize computeDelay g m d.p (sampleDiscreteFrom d.a ((g d.gs).1 * d.Lambda)).toNat (g d.gs).2 = cd
  by_cases hq : d.toQueue = true
  · rw [if_pos hq]; exact Or.inl ⟨rfl, rfl⟩
  rw [if_neg hq]
  by_cases hf : d.fired = true
  swap
  · rw [if_neg hf]; exact Or.inr (Or.inl ⟨rfl, rfl⟩)
  rw [if_pos hf]
  by_cases hc : sampleDiscreteFrom d.a ((g d.gs).1 * d.Lambda) < 0
  · rw [if_pos hc]; exact Or.inr (Or.inl ⟨rfl, rfl⟩)
  rw [if_neg hc]
  have hj := sampleDiscreteFrom_toNat_lt _ _ (not_lt.mp hc)
  rcases cd with _ | ⟨delay, gs⟩
  · exact Or.inr (Or.inl ⟨rfl, rfl⟩)
  dsimp only
  by_cases hd : delay > 0
  · rw [if_pos hd]; exact Or.inr (Or.inr ⟨_, hj, Or.inl ⟨_, rfl, rfl⟩⟩)
  · rw [if_neg hd]; exact Or.inr (Or.inr ⟨_, hj, Or.inr ⟨rfl, rfl⟩⟩)

/-- **no other queue operation**: whatever happens in an iteration, the queue afterwards is the queue
before, or that queue advanced by one slot, or that queue with a single insertion of amount 1.  Every
queue the delay loop ever holds is therefore the result of a history of the operations verified in
C20, and `C20.queue_exactly_once` applies to the loop's insertions. -/
theorem delayIter_queue_ops (g : Gen σ α) (m : SimModel α) (times : List α) (s : LoopState σ α) :
    (delayIter g m times s).q = s.q ∨ (delayIter g m times s).q = s.q.advance
      ∨ ∃ t j, (delayIter g m times s).q = s.q.add t j 1 :=
  (delayApply_cases g m times s _).queue_ops

/-! ### The delay+volume loop treats the two parts of a reaction the same way -/

/-- a queue step (`step_type` 2) of the delay+volume loop delivers the earliest slot and advances the queue. -/
theorem dv_queue_branch (g : Gen σ α) (m : SimModel α) (vm : VolModel α) (times : List α) (s : LoopState σ α)
    (d : DVDecision σ α) (hq : d.stepType = 2) :
    (dvApply g m vm times s d).x = deliver m s.q d.x ∧ (dvApply g m vm times s d).q = s.q.advance
      ∧ (dvApply g m vm times s d).t = d.tNew ∧ (dvApply g m vm times s d).vol = s.vol := by
  unfold dvApply deliver
  simp [hq]

/-- the decision takes the queue branch only when the queue time is not later than the tick and not later than the
proposed reaction time, and then the clock moves to that queue time. -/
theorem dvDecide_queue (g : Gen σ α) (m : SimModel α) (times : List α) (s : LoopState σ α)
    (h : (dvDecide g m times s).stepType = 2) :
    (dvDecide g m times s).tNew = s.q.next ∧ s.q.next ≤ s.nextTick := by
  rcases dvDecide_cases g m times s with ⟨-, h0 | h0, -⟩ | ⟨-, -, h1, -⟩ | ⟨-, hn, -, ht, -⟩
  · rw [h0] at h; cases h
  · rw [h0] at h; cases h
  · rw [h1] at h; cases h
  · exact ⟨ht, not_lt.mp hn⟩

/-- **a firing with a positive delay** in the delay+volume loop: immediate part now, delayed part queued once. -/
theorem dv_fire_positive (g : Gen σ α) (m : SimModel α) (vm : VolModel α) (times : List α) (s : LoopState σ α)
    (d : DVDecision σ α) (h0 : d.stepType = 0)
    (j : Nat) (hj : sampleDiscreteFrom d.a ((g d.gs).1 * d.Lambda) = (j : Int))
    (delay : α) (g3 : σ) (hd : computeDelay g m d.p j (g d.gs).2 = some (delay, g3)) (hpos : 0 < delay) :
    (dvApply g m vm times s d).x = addCol d.x (colOf m.U j)
      ∧ (dvApply g m vm times s d).q = s.q.add (d.tNew + delay) j 1
      ∧ (dvApply g m vm times s d).t = d.tNew := by
  unfold dvApply
  have hnn : ¬ ((j : Int) < 0) := by omega
  simp [h0, hj, hnn, hd, hpos]

/-- a non-positive delay acts as zero delay there too. -/
theorem dv_fire_nonpositive (g : Gen σ α) (m : SimModel α) (vm : VolModel α) (times : List α) (s : LoopState σ α)
    (d : DVDecision σ α) (h0 : d.stepType = 0)
    (j : Nat) (hj : sampleDiscreteFrom d.a ((g d.gs).1 * d.Lambda) = (j : Int))
    (delay : α) (g3 : σ) (hd : computeDelay g m d.p j (g d.gs).2 = some (delay, g3)) (hneg : delay ≤ 0) :
    (dvApply g m vm times s d).x = addCol (addCol d.x (colOf m.U j)) (colOf m.D j)
      ∧ (dvApply g m vm times s d).q = s.q
      ∧ (dvApply g m vm times s d).t = d.tNew := by
  unfold dvApply
  have hnn : ¬ ((j : Int) < 0) := by omega
  have hnp : ¬ (delay > 0) := not_lt.mpr hneg
  simp [h0, hj, hnn, hd, hnp]

theorem dvApply_cases (g : Gen σ α) (m : SimModel α) (vm : VolModel α) (times : List α) (s : LoopState σ α)
    (d : DVDecision σ α) :
    QueueStep m d.x d.a s.q (dvApply g m vm times s d).x (dvApply g m vm times s d).q := by
  unfold QueueStep dvApply deliver
  dsimp only
  generalize computeDelay g m d.p (sampleDiscreteFrom d.a ((g d.gs).1 * d.Lambda)).toNat (g d.gs).2 = cd
  by_cases h0 : d.stepType = 0
  swap
  · rw [if_neg h0]
    by_cases h1 : d.stepType = 1
    · rw [if_pos h1]; exact Or.inr (Or.inl ⟨rfl, rfl⟩)
    rw [if_neg h1]
    by_cases h2 : d.stepType = 2
    · rw [if_pos h2]; exact Or.inl ⟨rfl, rfl⟩
    · rw [if_neg h2]; exact Or.inr (Or.inl ⟨rfl, rfl⟩)
  rw [if_pos h0]
  by_cases hc : sampleDiscreteFrom d.a ((g d.gs).1 * d.Lambda) < 0
  · rw [if_pos hc]; exact Or.inr (Or.inl ⟨rfl, rfl⟩)
  rw [if_neg hc]
  have hj := sampleDiscreteFrom_toNat_lt _ _ (not_lt.mp hc)
  rcases cd with _ | ⟨delay, gs⟩
  · exact Or.inr (Or.inl ⟨rfl, rfl⟩)
  dsimp only
  by_cases hd : delay > 0
  · rw [if_pos hd]; exact Or.inr (Or.inr ⟨_, hj, Or.inl ⟨_, rfl, rfl⟩⟩)
  · rw [if_neg hd]; exact Or.inr (Or.inr ⟨_, hj, Or.inr ⟨rfl, rfl⟩⟩)

/-- **no other queue operation** in the delay+volume loop either: afterwards the queue is the queue before, that queue
advanced by one slot, or that queue with a single insertion of amount 1 (so `C20.queue_exactly_once` applies). -/
theorem delayVolumeIter_queue_ops (g : Gen σ α) (m : SimModel α) (vm : VolModel α) (times : List α) (s : LoopState σ α) :
    (delayVolumeIter g m vm times s).q = s.q ∨ (delayVolumeIter g m vm times s).q = s.q.advance
      ∨ ∃ t j, (delayVolumeIter g m vm times s).q = s.q.add t j 1 :=
  (dvApply_cases g m vm times s _).queue_ops

/-! ### Simulators without delay support apply both parts at the firing time -/

/-- the ordinary SSA step adds the immediate and the delayed column together when a reaction fires. -/
theorem ssa_applies_both (g : Gen σ α) (m : SimModel α) (times : List α) (s : LoopState σ α) :
    (jumpStep g m times s).x = (applyRules m.rules s.x s.p 1 s.t m.dt s.ruleStep).1
    ∨ ∃ j, (jumpStep g m times s).x
        = addCol (applyRules m.rules s.x s.p 1 s.t m.dt s.ruleStep).1 (addCol (colOf m.U j) (colOf m.D j)) := by
  rcases (jumpStep_outcome g m times s).2.2.2.2 with h | ⟨-, -, h⟩
  · exact Or.inl h
  · exact Or.inr ⟨_, h⟩

/-! ### Loop-level accounting: reported state plus still-queued deliveries accounts for every firing -/

section Accounting
open Bioscrape.C06 Finset

/-- the value, under a linear functional `f` on reactions' delayed parts, of everything still in the queue:
`Σ_slots Σ_reactions pending × f r`. -/
def queued (q : DQ α) (f : Nat → α) : α :=
  ∑ c ∈ range q.numCols, ∑ r ∈ range q.numRxn, q.cells c r * f r

theorem queued_add (q : DQ α) (t a : α) (j : Nat) (f : Nat → α) (hn : 0 < q.numCols) (hj : j < q.numRxn) :
    queued (q.add t j a) f = queued q f + a * f j := by
  unfold queued DQ.add
  simp only
  set col := (q.slotOf t + q.start) % q.numCols with hcol
  have hcl : col < q.numCols := Nat.mod_lt _ hn
  have : ∀ c r, (if c = col ∧ r = j then q.cells c r + a else q.cells c r) * f r
      = q.cells c r * f r + (if c = col then (if r = j then a * f r else 0) else 0) := by
    intro c r
    by_cases h1 : c = col <;> by_cases h2 : r = j <;> simp [h1, h2] <;> ring
  simp only [this, sum_add_distrib]
  congr 1
  rw [sum_eq_single col]
  · simp only [if_true]
    rw [sum_eq_single j]
    · simp
    · intro b _ hb; simp [hb]
    · intro h; exact absurd (mem_range.mpr hj) h
  · intro b _ hb; simp [hb]
  · intro h; exact absurd (mem_range.mpr hcl) h

theorem queued_advance (q : DQ α) (f : Nat → α) (hs : q.start < q.numCols) :
    queued q.advance f = queued q f - ∑ r ∈ range q.numRxn, q.cells q.start r * f r := by
  unfold queued DQ.advance
  simp only
  have : ∀ c, (∑ r ∈ range q.numRxn, (if c = q.start then 0 else q.cells c r) * f r)
      = (∑ r ∈ range q.numRxn, q.cells c r * f r) - (if c = q.start then ∑ r ∈ range q.numRxn, q.cells c r * f r else 0) := by
    intro c
    by_cases h : c = q.start <;> simp [h]
  simp only [this, sum_sub_distrib]
  congr 1
  rw [sum_eq_single q.start]
  · simp
  · intro b _ hb; simp [hb]
  · intro h; exact absurd (mem_range.mpr hs) h

theorem dot_deliver (m : SimModel α) (w : List α) (q : DQ α) (x : List α) (hx : x.length = w.length)
    (hD : ∀ r, r < m.props.length → (colOf (α := α) m.D r).length = w.length) :
    (deliver m q x).length = w.length ∧
    dot w (deliver m q x) = dot w x + ∑ r ∈ range m.props.length, q.nextReactions.getD r 0 * dot w (colOf m.D r) := by
  unfold deliver
  generalize m.props.length = n at hD ⊢
  induction n with
  | zero => simp [hx]
  | succ k ih =>
    obtain ⟨hl, hd⟩ := ih fun r hr => hD r (by omega)
    have hc := hD k (by omega)
    rw [List.range_succ, List.foldl_append, List.foldl_cons, List.foldl_nil, sum_range_succ,
      dot_addScaledCol w _ _ _ hl hc, hd, addScaledCol_length _ _ _ (hc.trans hl.symm), add_assoc]
    exact ⟨hl, rfl⟩

/-- the accounted value of a loop state under the weight `w`: what `w · x` will be once everything in the queue
has been delivered. -/
def settled (m : SimModel α) (w : List α) (s : LoopState σ α) : α :=
  dot w s.x + queued s.q (fun r => dot w (colOf m.D r))

/-- well-formedness of a delay simulation state: vector and column lengths agree with the weight vector, the queue
has one row per reaction, a positive number of slots and its start inside. -/
structure AcctWF (m : SimModel α) (w : List α) (s : LoopState σ α) : Prop where
  lenx : s.x.length = w.length
  colsU : ∀ r, r < m.props.length → (colOf (α := α) m.U r).length = w.length
  colsD : ∀ r, r < m.props.length → (colOf (α := α) m.D r).length = w.length
  nrxn : s.q.numRxn = m.props.length
  ncols : 0 < s.q.numCols
  start : s.q.start < s.q.numCols

theorem AcctWF.update {m : SimModel α} {w : List α} {s s' : LoopState σ α} (h : AcctWF m w s)
    (hx : s'.x.length = w.length) (hn : s'.q.numRxn = s.q.numRxn) (hc : s'.q.numCols = s.q.numCols)
    (hs : s'.q.start < s'.q.numCols) : AcctWF m w s' :=
  ⟨hx, h.colsU, h.colsD, hn ▸ h.nrxn, hc ▸ h.ncols, hs⟩

/-- one iteration of the delay loop keeps the state well formed and changes its settled value by nothing or by one
reaction's `w · (U_j + D_j)`, whether or not a sampler failed in it. -/
theorem delayIter_settled (g : Gen σ α) (m : SimModel α) (times : List α) (s : LoopState σ α) (w : List α)
    (hr : m.rules = []) (hwf : AcctWF m w s) :
    AcctWF m w (delayIter g m times s) ∧
    (settled m w (delayIter g m times s) = settled m w s ∨
      ∃ j, j < m.props.length ∧
        settled m w (delayIter g m times s) = settled m w s + (dot w (colOf m.U j) + dot w (colOf m.D j))) := by
  have hdx : (delayDecide g m times s).x = s.x := by unfold delayDecide; rw [hr]; rfl
  have hlen : (delayDecide g m times s).a.length = m.props.length := propensities_length m _ _ _ _ _
  unfold delayIter
  generalize delayDecide g m times s = d at hdx hlen
  have hx0 : d.x.length = w.length := hdx ▸ hwf.lenx
  unfold settled
  rcases delayApply_cases g m times s d with ⟨hx, hq⟩ | ⟨hx, hq⟩ | ⟨j, hj, ⟨t, hx, hq⟩ | ⟨hx, hq⟩⟩ <;> rw [hx, hq]
  · -- the queue delivers its earliest slot: what leaves the queue arrives in the state
    obtain ⟨hl, hd⟩ := dot_deliver m w s.q d.x hx0 hwf.colsD
    refine ⟨hwf.update (hx ▸ hl) (hq ▸ rfl) (hq ▸ rfl) (hq ▸ Nat.mod_lt _ hwf.ncols), Or.inl ?_⟩
    rw [hd, queued_advance _ _ hwf.start, hdx, hwf.nrxn]
    have : ∀ r ∈ range m.props.length, s.q.nextReactions.getD r 0 * dot w (colOf m.D r)
        = s.q.cells s.q.start r * dot w (colOf m.D r) := fun r hr' => by
      have hr'' : r < s.q.numRxn := hwf.nrxn ▸ mem_range.mp hr'
      simp [DQ.nextReactions, List.getD_eq_getElem?_getD, hr'']
    rw [sum_congr rfl this]
    ring
  · exact ⟨hwf.update (hx ▸ hx0) (hq ▸ rfl) (hq ▸ rfl) (hq ▸ hwf.start), Or.inl (by rw [hdx])⟩
  all_goals
    have hjlt : j < m.props.length := hlen ▸ hj
    have hU := hwf.colsU j hjlt
    have hx1 : (addCol d.x (colOf (α := α) m.U j)).length = w.length := by
      rw [addCol_length _ _ (hU.trans hx0.symm), hx0]
  · -- a firing whose delayed part is queued
    refine ⟨hwf.update (hx ▸ hx1) (hq ▸ rfl) (hq ▸ rfl) (hq ▸ hwf.start), Or.inr ⟨j, hjlt, ?_⟩⟩
    rw [dot_addCol w _ _ hx0 hU, queued_add _ _ _ _ _ hwf.ncols (hwf.nrxn ▸ hjlt), hdx]
    ring
  · -- a firing whose delayed part is applied at once
    have hDc := hwf.colsD j hjlt
    refine ⟨hwf.update (hx ▸ by rw [addCol_length _ _ (hDc.trans hx1.symm), hx1]) (hq ▸ rfl) (hq ▸ rfl)
      (hq ▸ hwf.start), Or.inr ⟨j, hjlt, ?_⟩⟩
    rw [dot_addCol w _ _ hx1 hDc, dot_addCol w _ _ hx0 hU, hdx]
    ring

/-- **one iteration accounts for every firing** (delay loop, no rules, any stream): the settled value under
any linear functional `w` is unchanged, or grows by `w · (U_j + D_j)` for the one reaction `j` that fired —
whether its delayed part was queued or applied at once, and whatever the queue delivered in this
iteration.  Nothing is lost and nothing is applied twice. -/
theorem delayIter_accounting (g : Gen σ α) (m : SimModel α) (times : List α) (s : LoopState σ α) (w : List α)
    (hr : m.rules = []) (hwf : AcctWF m w s) (hbad : (delayIter g m times s).bad = false) :
    AcctWF m w (delayIter g m times s) ∧
    (settled m w (delayIter g m times s) = settled m w s ∨
      ∃ j, j < m.props.length ∧
        settled m w (delayIter g m times s) = settled m w s + (dot w (colOf m.U j) + dot w (colOf m.D j))) :=
  delayIter_settled g m times s w hr hwf

/-- **whole runs**: after any number of iterations of the delay loop (no rules, any stream) the settled value
under `w` is the initial one plus `w · (U_j + D_j)` summed over the reactions that fired, in order — reported
state plus still-queued deliveries accounts for every firing, exactly once. -/
theorem delay_run_accounting (g : Gen σ α) (m : SimModel α) (times : List α) (w : List α) (hr : m.rules = [])
    (fuel : Nat) (s s' : LoopState σ α) (hwf : AcctWF m w s)
    (hrun : runLoop (delayIter g m times) times.length fuel s = some s') (hok : s'.bad = false) :
    AcctWF m w s' ∧ ∃ fired : List Nat, (∀ j ∈ fired, j < m.props.length) ∧
      settled m w s' = settled m w s + (fired.map (fun j => dot w (colOf m.U j) + dot w (colOf m.D j))).sum := by
  refine (runLoop_induction _ _ (fun s' => AcctWF m w s' ∧ ∃ fired : List Nat, (∀ j ∈ fired, j < m.props.length) ∧
      settled m w s' = settled m w s + (fired.map (fun j => dot w (colOf m.U j) + dot w (colOf m.D j))).sum)
    (fun s₁ _ ⟨hwf₁, fired, hf, heq⟩ => ?_) fuel s s' ⟨hwf, [], by simp, by simp⟩ hrun).1
  obtain ⟨hwf₂, hstep⟩ := delayIter_settled g m times s₁ w hr hwf₁
  refine ⟨hwf₂, ?_⟩
  rcases hstep with h0 | ⟨j, hj, h1⟩
  · exact ⟨fired, hf, h0.trans heq⟩
  · refine ⟨fired ++ [j], fun k hk => ?_, ?_⟩
    · rcases List.mem_append.mp hk with hk | hk
      · exact hf k hk
      · rw [List.mem_singleton.mp hk]; exact hj
    · rw [h1, heq, List.map_append, List.sum_append, List.map_singleton, List.sum_singleton, add_assoc]

/-- **conservation with delays**: a weight vector orthogonal to every net column `U_j + D_j` is conserved by
"reported state + everything still queued" along every run of the delay simulator. -/
theorem delay_run_conservation (g : Gen σ α) (m : SimModel α) (times : List α) (w : List α) (hr : m.rules = [])
    (fuel : Nat) (s s' : LoopState σ α) (hwf : AcctWF m w s)
    (horth : ∀ j, j < m.props.length → dot w (colOf m.U j) + dot w (colOf m.D j) = 0)
    (hrun : runLoop (delayIter g m times) times.length fuel s = some s') (hok : s'.bad = false) :
    settled m w s' = settled m w s := by
  obtain ⟨_, fired, hf, heq⟩ := delay_run_accounting g m times w hr fuel s s' hwf hrun hok
  rw [heq]
  have : (fired.map (fun j => dot w (colOf m.U j) + dot w (colOf m.D j))).sum = 0 := by
    apply List.sum_eq_zero
    intro v hv
    obtain ⟨j, hj, rfl⟩ := List.mem_map.mp hv
    exact horth j (hf j hj)
  rw [this, add_zero]

/-- the state every delay simulation starts from (an empty queue made by `setup_queue`) is well formed and its
settled value is `w · x0`: the hypotheses of `delay_run_accounting` are met by every simulation, and its
conclusion reads `w · x + queued = w · x0 + Σ fired w · (U_j + D_j)`. -/
theorem acctWF_init (m : SimModel α) (w x0 p0 : List α) (g0 : σ) (vol0 dt : α) (ncols : Nat)
    (hx : x0.length = w.length) (hU : ∀ r, r < m.props.length → (colOf (α := α) m.U r).length = w.length)
    (hD : ∀ r, r < m.props.length → (colOf (α := α) m.D r).length = w.length) (hn : 0 < ncols) :
    AcctWF m w (initState m x0 p0 g0 vol0 ((DQ.setup m.props.length ncols dt).setCurrentTime m.t0)) ∧
    settled m w (initState m x0 p0 g0 vol0 ((DQ.setup m.props.length ncols dt).setCurrentTime m.t0)) = dot w x0 := by
  refine ⟨⟨by simpa [initState] using hx, hU, hD, by simp [initState, DQ.setup, DQ.new, DQ.setCurrentTime],
    by simpa [initState, DQ.setup, DQ.new, DQ.setCurrentTime] using hn,
    by simpa [initState, DQ.setup, DQ.new, DQ.setCurrentTime] using hn⟩, ?_⟩
  unfold settled queued
  simp [initState, DQ.setup, DQ.new, DQ.setCurrentTime]

end Accounting

/-! ### Delay samplers as exact functions of the stream -/

/-- a fixed delay is the parameter's value; it consumes no randomness. -/
theorem fixed_delay (g : Gen σ α) (m : SimModel α) (p : List α) (j d : Nat) (s : σ)
    (h : m.delays.getD j .none = .fixed d) : computeDelay g m p j s = some (vecGet p d, s) := by
  unfold computeDelay; rw [h]

/-- no delay object: zero delay, no randomness. -/
theorem no_delay (g : Gen σ α) (m : SimModel α) (p : List α) (j : Nat) (s : σ)
    (h : m.delays.getD j .none = .none) : computeDelay g m p j s = some (0, s) := by
  unfold computeDelay; rw [h]

/-- the Gaussian delay is the Box–Muller form `μ + σ·sqrt(−2 ln u)·cos(2π v)` of two consecutive
uniforms; no variate is cached between calls. -/
theorem gaussian_delay (g : Gen σ α) (m : SimModel α) (p : List α) (j mu sd : Nat) (s : σ)
    (h : m.delays.getD j .none = .gaussian mu sd) :
    computeDelay g m p j s
      = some (Transc.sqrt (-((2 : Nat) : α) * Transc.log (g s).1) * Transc.cos (m.twoPi * (g (g s).2).1) * vecGet p sd
              + vecGet p mu, (g (g s).2).2) := by
  unfold computeDelay; rw [h]; rfl

/-- the gamma delay is the Marsaglia–Tsang sampler applied to the model's own `k` and `θ` parameters, reading the
stream from where the loop left it (at most 10000 rejection rounds, after which the simulation reports a failure rather
than a number). -/
theorem gamma_delay (g : Gen σ α) (m : SimModel α) (p : List α) (j k th : Nat) (s : σ)
    (h : m.delays.getD j .none = .gamma k th) :
    computeDelay g m p j s = gammaRv g m.twoPi (vecGet p k) (vecGet p th) 10000 s := by
  unfold computeDelay; rw [h]

/-- **deterministic delays leave the random stream alone**: with no delay or a fixed delay the uniforms that follow are
the ones that would have followed anyway, so adding a fixed delay to a reaction does not change which reactions fire or
when (only when their delayed part arrives). -/
theorem deterministic_delay_stream (g : Gen σ α) (m : SimModel α) (p : List α) (j : Nat) (s : σ)
    (h : m.delays.getD j .none = .none ∨ ∃ d, m.delays.getD j .none = .fixed d) :
    ∃ τ, computeDelay g m p j s = some (τ, s) := by
  rcases h with h | ⟨d, h⟩
  · exact ⟨0, no_delay g m p j s h⟩
  · exact ⟨vecGet p d, fixed_delay g m p j d s h⟩

end Bioscrape.C10
