import BioscrapeModel.Model.EntryPoint
import BioscrapeModel.Proofs.Loops

/-
C07 — every simulation mode returns a complete, correctly labelled result.

The option lattice is a genuine finite table: the theorems below are checked by kernel evaluation
over the *whole* lattice (128 combinations), against the dispatch model and against the result-class
constructors regenerated from the source by the translator on every run.

Second part (any network, seed, grid — by induction over the loop, not a table): a run of the SSA or the delay
simulator's loop that comes back without a sampling failure has written exactly one row per requested time point
(`ssa_run_complete`, `delay_run_complete`), and whatever the first iteration writes is the initial condition with the
rules applied (`ssa_first_rows`).  The loops are the ones run bit for bit against the implementation by C05/C06/C09/C10.
-/
namespace Bioscrape.C07
open Bioscrape.Entry Bioscrape.Generated

/-- every `Options` value with exactly one of Model / Interface is in the enumerated lattice. -/
theorem lattice_complete (o : Options) (h : o.model = !o.interface) : o ∈ lattice := by
  -- `lattice` enumerates every value of every field but `interface`, which it sets to `!model`
  have hb : ∀ b : Bool, b ∈ [true, false] := by decide
  have hv : ∀ v : VolOpt, v ∈ [VolOpt.off, .flagTrue, .number, .object] := fun v => by cases v <;> decide
  obtain ⟨m, i, s, d, sf, v, df⟩ := o
  obtain rfl : i = !m := by rw [show m = !i from h, Bool.not_not]
  simp only [lattice, List.mem_flatMap, List.mem_map]
  exact ⟨s, hb s, d, hb d, sf, hb sf, v, hv v, df, hb df, m, hb m, rfl⟩

def isResult : Outcome → Bool
  | .result .. => true
  | _ => false

def notAbstract : Outcome → Bool
  | .result _ .delayVolumeAbstract .. => false
  | .internalError _ => false
  | _ => true

def timeAxisOk : Outcome → Bool
  | .result c .. => storesTimeAxis c
  | _ => false

def volumeColumnOk (o : Options) : Bool :=
  match simulateModel o with
  | .result _ _ _ v _ _ => v == (decide (o.volume ≠ .off) && (o.stochastic || o.delay))
  | _ => false

def dispatchOk (o : Options) : Bool :=
  match simulateModel o with
  | .result c s i _ n d =>
      (decide (s = .deterministic) == (!o.delay && !o.stochastic))
      && (decide (s = .delaySSA ∨ s = .delayVolumeSSA) == o.delay)
      && (decide (i = .safe) == (o.model && o.safe))
      && (n == o.model) && (d == o.dataframe)
      && (decide (c = .SSAResult) == (!o.delay && (!o.stochastic || decide (o.volume = .off))))
  | _ => false

/-- one evaluation of the entry point over the whole lattice; the five theorems below read their part off it. -/
theorem entry_checks : ∀ o ∈ lattice,
    (isResult (simulateModel o) && notAbstract (simulateModel o) && timeAxisOk (simulateModel o)
      && volumeColumnOk o && dispatchOk o) = true := by
  decide +kernel

/-- **never fails from inside**: every option combination of the lattice yields a result. -/
theorem entry_total : ∀ o ∈ lattice, isResult (simulateModel o) = true := by
  intro o ho
  have h := entry_checks o ho
  simp only [Bool.and_eq_true] at h
  exact h.1.1.1.1

/-- the combinations outside the lattice (neither / both of Model and Interface) are rejected with an
explicit error about the options. -/
theorem entry_rejects_bad_source (o : Options) (h : o.model = o.interface) :
    ∃ msg, simulateModel o = .optionError msg := by
  obtain ⟨m, i, s, d, sf, v, df⟩ := o
  simp only at h
  subst h
  cases m
  · exact ⟨"requires either a Model or CSimInterface", by simp [simulateModel]⟩
  · exact ⟨"requires either a Model OR a CSimInterface, not both", by simp [simulateModel]⟩

/-- no combination reaches an abstract simulator or an internal error. -/
theorem entry_no_abstract_simulator : ∀ o ∈ lattice, notAbstract (simulateModel o) = true := by
  intro o ho
  have h := entry_checks o ho
  simp only [Bool.and_eq_true] at h
  exact h.1.1.1.2

/-- **time axis**: every result class that the entry point can return stores the requested time points
(obligation regenerated from the constructors' source). -/
theorem entry_time_axis : ∀ o ∈ lattice, timeAxisOk (simulateModel o) = true := by
  intro o ho
  have h := entry_checks o ho
  simp only [Bool.and_eq_true] at h
  exact h.1.1.2

/-- every result class stores the result rows. -/
theorem result_rows_stored : ∀ c : ResultClass, "simulation_result" ∈ fieldsSet c := by
  intro c; cases c <;> decide +kernel

/-- volume results carry the volume trace and the division flag; delay results the final queue. -/
theorem volume_fields :
    "volume" ∈ fieldsSet .VolumeSSAResult ∧ "cell_divided_flag" ∈ fieldsSet .VolumeSSAResult
    ∧ "volume" ∈ fieldsSet .DelayVolumeSSAResult ∧ "final_delay_queue" ∈ fieldsSet .DelayVolumeSSAResult
    ∧ "final_delay_queue" ∈ fieldsSet .DelaySSAResult := by
  decide +kernel

/-- **labelling**: a volume column exactly when a volume is in play; a volume is in play exactly when the
`volume` option is not off and the run is stochastic or delayed. -/
theorem entry_volume_column : ∀ o ∈ lattice, volumeColumnOk o = true := by
  intro o ho
  have h := entry_checks o ho
  simp only [Bool.and_eq_true] at h
  exact h.1.2

/-- columns: one per species in index order, then `time`, then `volume` when used. -/
theorem columns_shape (species : List String) (named hasVolume : Bool) :
    (columns species named hasVolume).length = species.length + 1 + (if hasVolume then 1 else 0) := by
  cases named <;> cases hasVolume <;> simp [columns]

theorem columns_named (species : List String) (hasVolume : Bool) :
    (columns species true hasVolume).take species.length = species := by
  simp [columns]

/-- **where `time` and `volume` are**: for any number of species, named or positional, the label right after the species
columns is `time`, and `volume`, when a volume is in play, is the label after that and the last one; without a volume
`time` is the last label. -/
theorem columns_time_volume (species : List String) (named hasVolume : Bool) :
    (columns species named hasVolume)[species.length]? = some "time"
    ∧ (columns species named hasVolume)[species.length + 1]? = (if hasVolume then some "volume" else none) := by
  cases named <;> cases hasVolume <;> simp [columns]

/-- species columns of a positional (interface-only) result are the positions `0 … n−1` in order. -/
theorem columns_positional (species : List String) (hasVolume : Bool) :
    (columns species false hasVolume).take species.length = (List.range species.length).map toString := by
  simp [columns]

/-- the simulator chosen: delay wins over stochastic, deterministic otherwise; the safe flag selects the
safe interface when a Model is given; species names are available exactly when a Model was passed. -/
theorem entry_dispatch : ∀ o ∈ lattice, dispatchOk o = true := by
  intro o ho
  have h := entry_checks o ho
  simp only [Bool.and_eq_true] at h
  exact h.2

/-! ### Complete results: one row per requested time point -/

section complete
variable {σ α : Type}

/-- rows written so far = index of the next time point ≤ number of requested time points; no `break` taken. -/
def Filling (n : Nat) (s : LoopState σ α) : Prop := s.rows.length = s.idx ∧ s.idx ≤ n ∧ s.stop = false

theorem Filling.step [LE α] [DecidableLE α] {times : List α} {s s' : LoopState σ α} {x : List α}
    (h : Filling times.length s) (hrec : Records times s s' x) (hstop : s'.stop = s.stop) : Filling times.length s' :=
  ⟨hrec.rows_length h.1, hrec.idx_le h.2.1, hstop.trans h.2.2⟩

theorem run_complete (iter : LoopState σ α → LoopState σ α) (n : Nat)
    (hstep : ∀ s, Filling n s → Filling n (iter s)) (fuel : Nat) (s s' : LoopState σ α) (h : Filling n s)
    (hrun : runLoop iter n fuel s = some s') (hbad : s'.bad = false) : s'.rows.length = n := by
  obtain ⟨⟨h1, h2, h3⟩, hc⟩ := runLoop_induction iter n (Filling n) (fun s _ => hstep s) fuel s s' h hrun
  have : ¬ s'.idx < n := fun hlt => hc ⟨hlt, by simp [h3], by simp [hbad]⟩
  omega

variable [Zero α] [One α] [Add α] [Sub α] [Mul α] [Div α] [Neg α] [NatCast α] [IntCast α]
  [LT α] [LE α] [DecidableLT α] [DecidableLE α] [Transc α] [Trunc α]

/-- **a stochastic simulation returns one row per requested time point** (any network, seed, grid). -/
theorem ssa_run_complete (g : Gen σ α) (m : SimModel α) (times x0 p0 : List α) (g0 : σ) (vol0 : α) (q0 : DQ α)
    (fuel : Nat) (s' : LoopState σ α)
    (hrun : runLoop (ssaIter g m times) times.length fuel (initState m x0 p0 g0 vol0 q0) = some s')
    (hbad : s'.bad = false) : s'.rows.length = times.length :=
  run_complete _ _ (fun s hs => hs.step (ssaIter_frame g m times s).1 (ssaIter_frame g m times s).2.2) fuel _ s'
    ⟨rfl, Nat.zero_le _, rfl⟩ hrun hbad

/-- **so does a simulation with delays.** -/
theorem delay_run_complete (g : Gen σ α) (m : SimModel α) (times x0 p0 : List α) (g0 : σ) (vol0 : α) (q0 : DQ α)
    (fuel : Nat) (s' : LoopState σ α)
    (hrun : runLoop (delayIter g m times) times.length fuel (initState m x0 p0 g0 vol0 q0) = some s')
    (hbad : s'.bad = false) : s'.rows.length = times.length :=
  run_complete _ _
    (fun s hs => hs.step (delayApply_frame g m times s _).1 (delayApply_frame g m times s _).2.2.2.2) fuel _ s'
    ⟨rfl, Nat.zero_le _, rfl⟩ hrun hbad

/-- **every row of the first iteration is the initial condition with the rules applied**: whatever the first
iteration of the SSA loop writes (the rows for the grid times it passes before anything fires) is the rule-updated
initial state. -/
theorem ssa_first_rows (g : Gen σ α) (m : SimModel α) (times x0 p0 : List α) (g0 : σ) (vol0 : α) (q0 : DQ α) :
    ∃ k, (ssaIter g m times (initState m x0 p0 g0 vol0 q0)).rows
      = replicateRow k (applyRules m.rules x0 p0 1 m.t0 m.dt true).1 :=
  ⟨_, (ssaIter_frame g m times (initState m x0 p0 g0 vol0 q0)).1.1⟩

end complete

/-! ### Non-vacuity -/
example : lattice.length = 128 := by decide +kernel
example : simulateModel { model := true, interface := false, stochastic := true, delay := true, safe := false,
                          volume := .object, dataframe := true }
    = .result .DelayVolumeSSAResult .delayVolumeSSA .plain true true true := by decide +kernel

end Bioscrape.C07
