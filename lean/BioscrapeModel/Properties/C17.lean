import BioscrapeModel.Model.Pickle
import BioscrapeModel.Proofs.Pickle
import BioscrapeModel.Model.Term

/-
C17 — copies and pickles of models and results behave like the original.

The pickling code *is* a set of hand-kept tables; they are extracted from the source by a translator on
every run (`Generated/PickleTables.lean`) and the obligations `tablesOk_*` below are re-checked by the
kernel against what the source says now.  The generic theorem turns table consistency into the round trip.
-/
namespace Bioscrape.C17
open Bioscrape.Pickle Bioscrape.Generated

/-- **consistent tables ⇒ round trip**: restoring a dump gives back every persistent attribute, and every
derived C vector is rebuilt from (hence mirrors) its Python twin. -/
theorem roundtrip {V : Type} (t : PickleTable) (h : tablesOk t = true) (o fresh : Obj V) :
    (∀ a ∈ persistent t, restore t fresh (dump t o) a = o a)
    ∧ (∀ c ∈ t.declared.filter isDerived, t.setstate.find? (fun e => e.1 == c) = none →
        restore t fresh (dump t o) c = o (twin c)) := by
  unfold tablesOk at h
  simp only [Bool.and_eq_true, List.all_eq_true] at h
  obtain ⟨⟨⟨hp, _⟩, hd⟩, _⟩ := h
  constructor
  · intro a ha
    have := hp a ha
    split at this
    · next e hf => simp only [restore, hf, dump_getD o _ (beq_iff_eq.mp this)]
    · cases this
  · intro c hc hnone
    have := (hd c hc).2
    split at this
    · next e hf => simp only [restore, hnone, hf, dump_getD o _ (beq_iff_eq.mp this)]
    · cases this

def tableOf (cls : String) : PickleTable :=
  (pickleTables.find? (fun t => t.cls == cls)).getD
    { cls := "", declared := ["missing"], getstate := [], setstate := [], rebuild := [], cleared := [], superSliceOk := false }

/-- the twins of all derived vectors are persistent attributes and no derived vector is written by `__setstate__`
directly (so `generations_derived` applies to every one of them), per class. -/
def twinsPersistent (t : PickleTable) : Bool :=
  (t.declared.filter isDerived).all (fun c =>
    (persistent t).contains (twin c) && (t.setstate.find? (fun e => e.1 == c)).isNone)

/-! ### the regenerated obligations: one sweep over all hand-pickled classes, then one instance per class -/

/-- **every table the translator produced is consistent**, and the twins of its derived vectors are persistent. -/
theorem tables_consistent : ∀ t ∈ pickleTables, tablesOk t = true ∧ twinsPersistent t = true := by decide +kernel

/-- all six tables were found by the translator. -/
theorem tables_present : pickleTables.map (·.cls)
    = ["Model", "Schnitz", "Lineage", "VolumeCellState", "LineageModel", "ExperimentalLineage"] := by decide +kernel

theorem tableOf_consistent (cls : String) (h : cls ∈ pickleTables.map (·.cls) := by simp [tables_present]) :
    tablesOk (tableOf cls) = true ∧ twinsPersistent (tableOf cls) = true := by
  obtain ⟨t, ht, rfl⟩ := List.mem_map.mp h
  exact tables_consistent _ (getD_find?_mem _ ⟨t, ht, beq_self_eq_true _⟩)

theorem tablesOk_Model : tablesOk (tableOf "Model") = true := (tableOf_consistent "Model").1
theorem tablesOk_LineageModel : tablesOk (tableOf "LineageModel") = true := (tableOf_consistent "LineageModel").1
theorem tablesOk_Schnitz : tablesOk (tableOf "Schnitz") = true := (tableOf_consistent "Schnitz").1
theorem tablesOk_Lineage : tablesOk (tableOf "Lineage") = true := (tableOf_consistent "Lineage").1
theorem tablesOk_ExperimentalLineage : tablesOk (tableOf "ExperimentalLineage") = true :=
  (tableOf_consistent "ExperimentalLineage").1
theorem tablesOk_VolumeCellState : tablesOk (tableOf "VolumeCellState") = true :=
  (tableOf_consistent "VolumeCellState").1

theorem twins_persistent_Model : twinsPersistent (tableOf "Model") = true := (tableOf_consistent "Model").2
theorem twins_persistent_LineageModel : twinsPersistent (tableOf "LineageModel") = true :=
  (tableOf_consistent "LineageModel").2
theorem twins_persistent_Lineage : twinsPersistent (tableOf "Lineage") = true := (tableOf_consistent "Lineage").2

/-- the `LineageModel` tuple is its own 22 fields followed by the `Model` tuple, and the base class is
handed exactly that suffix. -/
theorem lineageModel_layout :
    (tableOf "LineageModel").getstate.drop 22 = (tableOf "Model").getstate
    ∧ (tableOf "LineageModel").superSliceOk = true := by decide +kernel

/-! ### cell states: `__reduce__ = (cls, args)` and `cls(*args)` -/

/-- **a cell state restored from its pickle has every persistent attribute of the original** (whenever the regenerated
`__reduce__` / `__init__` table is consistent). -/
theorem reduce_roundtrip {V : Type} (t : ReduceTable) (h : reduceOk t = true) (o fresh : Obj V) (a : String)
    (ha : a ∈ reducePersistent t) : construct t fresh (dumpReduce t o) a = o a := by
  unfold reduceOk at h
  simp only [Bool.and_eq_true, beq_iff_eq, List.all_eq_true] at h
  obtain ⟨⟨⟨hlen, hzip⟩, hall⟩, _⟩ := h
  obtain ⟨pa, hf, hpa⟩ := Option.map_eq_some_iff.mp
    (find?_zip_map initTarget o a t.initParams t.reduceArgs hzip hlen.symm (by simpa using hall a ha))
  simp only [construct, dumpReduce, hf, hpa]

def reduceTableOf (cls : String) : ReduceTable :=
  (reduceTables.find? (fun t => t.cls == cls)).getD
    { cls := "", declared := ["missing"], reduceArgs := [], initParams := ["missing"], getstate := ["missing"] }

/-- the regenerated obligation for lineage cell states. -/
theorem reduceOk_LineageVolumeCellState : reduceOk (reduceTableOf "LineageVolumeCellState") = true := by decide +kernel

example : "dead" ∈ reducePersistent (reduceTableOf "LineageVolumeCellState") := by decide +kernel
example : "initial_time" ∈ reducePersistent (reduceTableOf "LineageVolumeCellState") := by decide +kernel

/-! ### copies of copies: any number of dump/restore generations -/

/-- the object after `n` generations of pickling (each generation restored into its own fresh object). -/
def generations {V : Type} (t : PickleTable) (fresh : Nat → Obj V) (o : Obj V) : Nat → Obj V
  | 0 => o
  | n + 1 => restore t (fresh n) (dump t (generations t fresh o n))

/-- **a copy of a copy of … of a model** still has every persistent attribute of the original, whatever the fresh
objects the intermediate generations were restored into. -/
theorem generations_roundtrip {V : Type} (t : PickleTable) (h : tablesOk t = true) (fresh : Nat → Obj V) (o : Obj V)
    (n : Nat) : ∀ a ∈ persistent t, generations t fresh o n a = o a :=
  stable_of_succ _ (generations t fresh o) (fun n a ha => (roundtrip t h _ (fresh n)).1 a ha) n

/-- every derived C vector of a late-generation copy mirrors the *original's* Python twin, provided the twin itself is
persistent (it is, for every class: `tables_consistent`). -/
theorem generations_derived {V : Type} (t : PickleTable) (h : tablesOk t = true) (fresh : Nat → Obj V) (o : Obj V)
    (n : Nat) (c : String) (hc : c ∈ t.declared.filter isDerived)
    (hnone : t.setstate.find? (fun e => e.1 == c) = none) (htw : twin c ∈ persistent t) :
    generations t fresh o (n + 1) c = o (twin c) := by
  show restore t (fresh n) (dump t (generations t fresh o n)) c = o (twin c)
  rw [(roundtrip t h (generations t fresh o n) (fresh n)).2 c hc hnone]
  exact generations_roundtrip t h fresh o n (twin c) htw

/-- the restore depends on the original only through its persistent tuple: two originals that agree on every stored
attribute give the same copy (so later edits of the original, which change only *its* attributes, cannot reach a copy
already made — the model-level content of "the copy is independent"; aliasing of the stored values themselves is what
the correspondence check's edit-one-check-the-other scenarios decide). -/
theorem restore_congr {V : Type} (t : PickleTable) (fresh : Obj V) (o o' : Obj V)
    (h : ∀ a ∈ t.getstate, o a = o' a) : restore t fresh (dump t o) = restore t fresh (dump t o') := by
  rw [show dump t o = dump t o' from List.map_congr_left h]

/-- copies of copies of a cell state. -/
def reduceGenerations {V : Type} (t : ReduceTable) (fresh : Nat → Obj V) (o : Obj V) : Nat → Obj V
  | 0 => o
  | n + 1 => construct t (fresh n) (dumpReduce t (reduceGenerations t fresh o n))

theorem reduceGenerations_roundtrip {V : Type} (t : ReduceTable) (h : reduceOk t = true) (fresh : Nat → Obj V)
    (o : Obj V) (n : Nat) : ∀ a ∈ reducePersistent t, reduceGenerations t fresh o n a = o a :=
  stable_of_succ _ (reduceGenerations t fresh o) (fun n a ha => reduce_roundtrip t h _ (fresh n) a ha) n

/-! ### expression trees: `restore_binary_term` rebuilds the same term list in order -/

/-- `BinaryTerm.__reduce__ = (restore_binary_term, (terms_list, cls))` and
`restore_binary_term` = fresh object, `py_add_term` for each element in order. -/
def restoreBinaryTerm {T : Type} (termsList : List T) : List T := termsList.foldl (fun acc x => acc ++ [x]) []

theorem binaryTerm_reduce {T : Type} (l : List T) : restoreBinaryTerm l = l := by
  simp [restoreBinaryTerm, ← List.flatMap_def]

/-! ### Non-vacuity -/
example : "species_values" ∈ persistent (tableOf "Model") := by decide +kernel
example : "division_rules_list" ∈ persistent (tableOf "LineageModel") := by decide +kernel

end Bioscrape.C17
