import BioscrapeModel.Proofs.Network

/-
C03 — stoichiometry and net rate equations follow the reaction list.
-/
set_option linter.unusedSectionVars false

namespace Bioscrape.C03

/-! ### Stoichiometric matrices -/

/-- **matrix entry, for every species order**: whatever index list `idx` the declaration order
produced, row `i` of a reaction's column is `count(products) − count(reactants)` of species `idx[i]`. -/
theorem stoich_entry (idx : List String) (rxns : List RxnDef) (i r : Nat)
    (hi : i < idx.length) (hr : r < rxns.length) :
    entry (stoichCols idx rxns) i r
      = ((rxns[r]).products.count (idx[i]) : Int) - ((rxns[r]).reactants.count (idx[i]) : Int) :=
  (entry_map_map (fun (c : RxnDef) s => dictGet (updateDict c.reactants c.products) s) rxns idx hi hr).trans
    (dictGet_updateDict _ _ _)

/-- the delayed matrix is built the same way from the delayed reactants and products. -/
theorem delay_stoich_entry (idx : List String) (rxns : List RxnDef) (i r : Nat)
    (hi : i < idx.length) (hr : r < rxns.length) :
    entry (delayStoichCols idx rxns) i r
      = ((rxns[r]).dProducts.count (idx[i]) : Int) - ((rxns[r]).dReactants.count (idx[i]) : Int) :=
  (entry_map_map (fun (c : RxnDef) s => dictGet (updateDict c.dReactants c.dProducts) s) rxns idx hi hr).trans
    (dictGet_updateDict _ _ _)

/-- a species on both sides with equal multiplicity cancels. -/
theorem stoich_cancel (reactants products : List String) (s : String)
    (h : products.count s = reactants.count s) : dictGet (updateDict reactants products) s = 0 := by
  rw [dictGet_updateDict, h, sub_self]

/-! ### Species indexing -/

/-- every species gets exactly one row: the index list never holds a name twice, in any
declaration order. -/
theorem speciesOrder_nodup (decl : List String) (rxns : List RxnDef) (ic : List String) :
    (speciesOrder decl rxns ic).Nodup := by
  rw [speciesOrder_eq_addAll]
  exact addAll_nodup _ _ (addAll_nodup _ _ List.nodup_nil)

/-- **declared species keep their declared positions**: the index list starts with the declared species in declaration
order (duplicates and empty names dropped); species that only appear in reactions or initial conditions come after. -/
theorem speciesOrder_declared_first (decl : List String) (rxns : List RxnDef) (ic : List String) :
    addAll [] decl <+: speciesOrder decl rxns ic := by
  rw [speciesOrder_eq_addAll]
  exact addAll_prefix _ _

/-- **no species is left without a row**: every (non-empty) name that is declared, used by any reaction as reactant,
product, delayed reactant or delayed product, or given an initial condition, is in the index list. -/
theorem speciesOrder_complete (decl : List String) (rxns : List RxnDef) (ic : List String) (s : String) (hne : s ≠ "")
    (h : s ∈ decl ∨ s ∈ ic ∨ ∃ r ∈ rxns, s ∈ r.reactants ∨ s ∈ r.products ∨ s ∈ r.dReactants ∨ s ∈ r.dProducts) :
    s ∈ speciesOrder decl rxns ic :=
  mem_speciesOrder.2 ⟨hne, h⟩

/-! ### Net rate equations -/

variable {α : Type} [Field α] [LinearOrder α] [IsStrictOrderedRing α] [Transc α]

/-- the dense form of one derivative row: `Σ_r (U + D)[s,r] · rate_r`. -/
def denseRow (U D : List (List Int)) (rates : List α) (s : Nat) : α :=
  ((List.range rates.length).map (fun r => ((entry U s r + entry D s r : Int) : α) * rates.getD r 0)).sum

/-- **the compressed row equals the dense one**: skipping zero entries changes nothing. -/
theorem derivRow_eq_dense (U D : List (List Int)) (rates : List α) (s : Nat) :
    derivRow U D rates s = denseRow U D rates s := by
  rw [denseRow, List.sum_eq_foldl, List.foldl_map]
  refine List.foldl_ext _ _ _ fun acc r _ => ?_
  by_cases hv : entry U s r + entry D s r = 0
  · simp only [hv, ne_eq, not_true_eq_false, if_false, Int.cast_zero, zero_mul, add_zero]
  · simp only [ne_eq, hv, not_false_eq_true, if_true, mul_comm]

/-- a row all of whose terms vanish, because the entry or the rate does. -/
theorem denseRow_eq_zero (U D : List (List Int)) (rates : List α) (s : Nat)
    (h : ∀ r, entry U s r + entry D s r = 0 ∨ rates.getD r 0 = 0) : denseRow U D rates s = 0 := by
  refine List.sum_eq_zero fun v hv => ?_
  obtain ⟨r, _, rfl⟩ := List.mem_map.mp hv
  rcases h r with h | h
  · rw [h, Int.cast_zero, zero_mul]
  · rw [h, mul_zero]

/-- **net rate equations**: the derivative reported for a state is, for each species, the sum over
reactions of (immediate + delayed stoichiometry) × the reaction's deterministic rate there. -/
theorem derivative_spec (n : Nat) (U D : List (List Int)) (props : List (Propensity α))
    (x p : Nat → α) (t : α) (s : Nat) (hs : s < n) :
    (derivative n U D props x p t).getD s 0
      = denseRow U D (props.map (fun q => q.det x p t)) s :=
  (derivative_getD n U D props x p t hs).trans (derivRow_eq_dense U D _ s)

/-! ### The safe interface's derivative -/

/-- **the safe interface's guard is idle wherever it only leaves out zero terms**: if every reaction that consumes
species `s` has rate zero while `s` is at zero (mass action does), the guarded row is the plain row. -/
theorem derivRowSafe_idle (U D : List (List Int)) (rates : List α) (xs : α) (s : Nat)
    (h : ∀ r, entry U s r + entry D s r ≤ 0 → xs ≤ 0 → rates.getD r 0 = 0) :
    derivRowSafe U D rates xs s = derivRow U D rates s := by
  refine List.foldl_ext _ _ _ fun acc r _ => ?_
  by_cases hg : entry U s r + entry D s r ≤ 0 ∧ xs ≤ 0
  · simp only [if_pos hg, h r hg.1 hg.2, zero_mul, add_zero]
  · simp only [if_neg hg]

/-- at a strictly positive count nothing is left out. -/
theorem derivRowSafe_pos (U D : List (List Int)) (rates : List α) (xs : α) (s : Nat) (hx : 0 < xs) :
    derivRowSafe U D rates xs s = derivRow U D rates s :=
  derivRowSafe_idle U D rates xs s (fun _ _ hle => absurd hx (not_lt.mpr hle))

/-- **the guard does leave something out otherwise**: one consuming reaction with a non-zero rate at a species at zero
(a constant-rate degradation) — the safe row is 0, the plain row is the (negative) rate. -/
example : derivRowSafe [[-1]] [[0]] [(3 : ℚ)] 0 0 = 0 ∧ derivRow [[-1]] [[0]] [(3 : ℚ)] 0 = -3 := by
  decide +kernel

/-! ### Parameters without a value -/

/-- `Model.check_parameters`: initialisation fails iff some parameter still holds the "unset"
marker (NaN in the implementation, `none` here). -/
def checkParameters (vals : List (String × Option α)) : Except String Unit :=
  match vals.find? (fun pv => pv.2.isNone) with
  | some pv => .error ("Unspecified Parameters: " ++ pv.1)
  | none => .ok ()

theorem init_fails_of_unset_param (vals : List (String × Option α)) (name : String)
    (h : (name, none) ∈ vals) : ∃ msg, checkParameters vals = .error msg := by
  unfold checkParameters
  cases hf : vals.find? (fun pv => pv.2.isNone) with
  | some pv => exact ⟨_, rfl⟩
  | none => exact absurd rfl (List.find?_eq_none.mp hf (name, none) h)

theorem init_ok_of_all_set (vals : List (String × Option α)) (h : ∀ pv ∈ vals, pv.2.isSome) :
    checkParameters vals = .ok () := by
  have hf : vals.find? (fun pv => pv.2.isNone) = none :=
    List.find?_eq_none.mpr fun pv hpv hn => Option.isSome_iff_ne_none.mp (h pv hpv) (Option.isNone_iff_eq_none.mp hn)
  rw [checkParameters, hf]

/-! ### Non-vacuity -/

example : stoichColumn ["A", "B", "C"] ["A", "A", "B"] ["B", "C", "C"] = [-2, 0, 2] := by decide +kernel
example : speciesOrder ["C"] [{ reactants := ["A", "A"], products := ["B", ""] }] ["D"] = ["C", "A", "B", "D"] := by
  decide +kernel

end Bioscrape.C03
