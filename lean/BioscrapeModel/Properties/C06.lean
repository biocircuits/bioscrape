import BioscrapeModel.Proofs.Vectors
import BioscrapeModel.Properties.C05
import BioscrapeModel.Properties.C01

/-
C06 — every stochastic trajectory is a feasible reaction path.

Invariants of the loop models (every uniform stream, hence every seed; no bound on the number of
steps): without rules the state moves only by whole stoichiometric columns, so consecutive reported
rows differ by a non-negative integer combination of them; integrality and linear conservation
laws follow; a state with zero total propensity persists; in safe mode a positive propensity implies
the full requirement table is met.
-/
set_option linter.unusedSectionVars false

namespace Bioscrape.C06
open Bioscrape.C05

variable {σ α : Type} [Field α] [LinearOrder α] [IsStrictOrderedRing α] [Transc α] [Trunc α]

/-- `y` is reached from `x` by adding whole columns of `cols` (a non-negative integer combination,
in inductive form). -/
inductive Reach (cols : List (List α)) : List α → List α → Prop
  | refl (x : List α) : Reach cols x x
  | step {x y : List α} (c : List α) : c ∈ cols → Reach cols x y → Reach cols x (addCol y c)

theorem Reach.trans {cols : List (List α)} {x y z : List α} (h1 : Reach cols x y) (h2 : Reach cols y z) :
    Reach cols x z := by
  induction h2 with
  | refl => exact h1
  | step c hc _ ih => exact Reach.step c hc ih

/-- the net stoichiometric columns `U_j + D_j` of a model, as numbers. -/
def netCols (m : SimModel α) : List (List α) :=
  (List.range m.props.length).map (fun j => addCol (colOf m.U j) (colOf m.D j))

/-- a chain of rows: each reported row is reached from the previous one, the first from `x0`, and the
current state from the last. -/
def Chain (cols : List (List α)) (x0 : List α) : List (List α) → List α → Prop
  | [], x => Reach cols x0 x
  | r :: rest, x => Reach cols x0 r ∧ Chain cols r rest x

theorem Chain.extend {cols : List (List α)} {x0 x y : List α} {rows : List (List α)}
    (h : Chain cols x0 rows x) (hxy : Reach cols x y) : Chain cols x0 rows y := by
  induction rows generalizing x0 with
  | nil => exact Reach.trans h hxy
  | cons r rest ih => exact ⟨h.1, ih h.2⟩

theorem Chain.record {cols : List (List α)} {x0 x : List α} {rows : List (List α)} (k : Nat)
    (h : Chain cols x0 rows x) : Chain cols x0 (rows ++ replicateRow k x) x := by
  induction rows generalizing x0 with
  | nil =>
    induction k generalizing x0 with
    | zero => exact h
    | succ k ih => exact ⟨h, ih (Reach.refl x)⟩
  | cons r rest ih => exact ⟨h.1, ih h.2⟩

/-- **one SSA step without rules**: the state stays or moves by exactly one net column of a
reaction that exists; rows written in the step show the state before the move. -/
theorem jumpStep_lattice (g : Gen σ α) (m : SimModel α) (times : List α) (s : LoopState σ α) (x0 : List α)
    (hr : m.rules = []) (h : Chain (netCols m) x0 s.rows s.x) :
    Chain (netCols m) x0 (jumpStep g m times s).rows (jumpStep g m times s).x := by
  obtain ⟨⟨hrec, -⟩, -, -, -, hx⟩ := jumpStep_outcome g m times s
  simp only [hr, applyRules_nil] at hrec hx
  rw [hrec]
  rcases hx with hx | ⟨_, hc, hx⟩ <;> rw [hx]
  · exact Chain.record _ h
  · refine Chain.extend (Chain.record _ h) (Reach.step _ ?_ (Reach.refl _))
    have hlt := sampleDiscreteFrom_toNat_lt _ _ hc
    rw [propensities_length] at hlt
    exact List.mem_map.mpr ⟨_, List.mem_range.mpr hlt, rfl⟩

/-- **whole runs, every stream**: after any number of iterations of the jump-process step (hence, by
`ssa_refines_jump`, of the SSA loop) on a model without rules, the reported rows form a chain in which
each row is reached from the previous one by adding whole net stoichiometric columns. -/
theorem jump_run_lattice (g : Gen σ α) (m : SimModel α) (times : List α) (x0 : List α) (hr : m.rules = [])
    (fuel : Nat) (s s' : LoopState σ α) (h : Chain (netCols m) x0 s.rows s.x)
    (hrun : runLoop (jumpStep g m times) times.length fuel s = some s') :
    Chain (netCols m) x0 s'.rows s'.x :=
  (runLoop_induction _ _ (fun s => Chain (netCols m) x0 s.rows s.x)
    (fun s _ => jumpStep_lattice g m times s x0 hr) fuel s s' h hrun).1

/-- **every reported row of `SSASimulator` is reached from the previous one by whole net stoichiometric columns**
(model without rules; any stream, grid, fuel).  `hok` is not needed: a sampling failure moves nothing. -/
theorem ssa_run_lattice (g : Gen σ α) (m : SimModel α) (times : List α) (x0 p0 : List α) (g0 : σ) (vol0 : α) (q0 : DQ α)
    (hr : m.rules = []) (fuel : Nat) (s' : LoopState σ α)
    (hrun : runLoop (ssaIter g m times) times.length fuel (initState m x0 p0 g0 vol0 q0) = some s')
    (hok : s'.bad = false) : Chain (netCols m) x0 s'.rows s'.x :=
  jump_run_lattice g m times x0 hr fuel (strip (initState m x0 p0 g0 vol0 q0)) (strip s') (Reach.refl x0)
    (ssa_run_spec hrun)

/-! ### Consequences of the lattice property -/

def dot (w x : List α) : α := (List.zipWith (· * ·) w x).sum

theorem dot_addScaledCol (w x c : List α) (a : α) (h1 : x.length = w.length) (h2 : c.length = w.length) :
    dot w (addScaledCol x a c) = dot w x + a * dot w c := by
  unfold dot addScaledCol
  induction w generalizing x c with
  | nil => simp
  | cons b w ih =>
    cases x with
    | nil => simp at h1
    | cons x0 x =>
      cases c with
      | nil => simp at h2
      | cons c0 c =>
        simp only [List.zipWith_cons_cons, List.sum_cons]
        rw [ih x c (by simpa using h1) (by simpa using h2)]
        ring

theorem dot_addCol (w x c : List α) (h1 : x.length = w.length) (h2 : c.length = w.length) :
    dot w (addCol x c) = dot w x + dot w c := by
  have : addCol x c = addScaledCol x 1 c := by simp [addCol, addScaledCol]
  rw [this, dot_addScaledCol w x c 1 h1 h2, one_mul]

/-- **conservation laws**: a weight vector orthogonal to every net column is conserved along every
reachable path (no rule overwrites species). -/
theorem conservation (cols : List (List α)) (w x y : List α) (hreach : Reach cols x y)
    (hx : x.length = w.length) (hcols : ∀ c ∈ cols, c.length = w.length ∧ dot w c = 0) :
    y.length = w.length ∧ dot w y = dot w x := by
  induction hreach with
  | refl => exact ⟨hx, rfl⟩
  | step c hc _ ih =>
    obtain ⟨hl, hd⟩ := ih
    have := hcols c hc
    refine ⟨by rw [addCol_length _ _ (by rw [this.1, hl]), hl], ?_⟩
    rw [dot_addCol w _ c hl this.1, hd, this.2, add_zero]

/-- integer-valued vectors. -/
def IsIntVec (x : List α) : Prop := ∀ v ∈ x, ∃ z : Int, v = (z : α)

theorem isInt_addCol (x c : List α) (hx : IsIntVec x) (hc : IsIntVec c) : IsIntVec (addCol x c) := by
  unfold addCol
  induction x generalizing c with
  | nil => intro v hv; simp at hv
  | cons a x ih =>
    cases c with
    | nil => intro v hv; simp at hv
    | cons b c =>
      intro v hv
      simp only [List.zipWith_cons_cons, List.mem_cons] at hv
      rcases hv with hv | hv
      · obtain ⟨z1, h1⟩ := hx a (by simp)
        obtain ⟨z2, h2⟩ := hc b (by simp)
        exact ⟨z1 + z2, by rw [hv, h1, h2]; push_cast; ring⟩
      · exact ih c (fun v hv => hx v (List.mem_cons_of_mem _ hv)) (fun v hv => hc v (List.mem_cons_of_mem _ hv)) v hv

/-- **integrality**: integer initial counts stay integer along every reachable path. -/
theorem integrality (cols : List (List α)) (x y : List α) (hreach : Reach cols x y) (hx : IsIntVec x)
    (hcols : ∀ c ∈ cols, IsIntVec c) : IsIntVec y := by
  induction hreach with
  | refl => exact hx
  | step c hc _ ih => exact isInt_addCol _ c ih (hcols c hc)

theorem colOf_isInt (S : List (List Int)) (j : Nat) : IsIntVec (colOf (α := α) S j) := by
  intro v hv
  unfold colOf at hv
  simp only [List.mem_map] at hv
  obtain ⟨z, _, hz⟩ := hv
  exact ⟨z, hz.symm⟩

theorem netCols_isInt (m : SimModel α) : ∀ c ∈ netCols m, IsIntVec c := by
  intro c hc
  unfold netCols at hc
  simp only [List.mem_map, List.mem_range] at hc
  obtain ⟨j, _, rfl⟩ := hc
  exact isInt_addCol _ _ (colOf_isInt m.U j) (colOf_isInt m.D j)

/-! ### Absorbing states -/

/-- **a state whose total propensity is zero persists**: without rules, the step moves the clock to
the next grid time, writes the unchanged state into the rows it passes, and consumes no randomness. -/
theorem absorbing_step (g : Gen σ α) (m : SimModel α) (times : List α) (s : LoopState σ α) (hr : m.rules = [])
    (hzero : arraySum (m.propensities .stoch s.x s.p 1 s.t) = 0) :
    (jumpStep g m times s).x = s.x ∧ (jumpStep g m times s).g = s.g
      ∧ (jumpStep g m times s).t = times.getD s.idx 0
      ∧ ∃ k, (jumpStep g m times s).rows = s.rows ++ replicateRow k s.x := by
  have hrule : applyRules m.rules s.x s.p 1 s.t m.dt s.ruleStep = (s.x, s.p) := by simp [hr, applyRules]
  unfold jumpStep arrive
  simp only [hrule, hzero]
  have : feq (0 : α) 0 = true := by simp [feq]
  simp only [this, if_true]
  exact ⟨trivial, trivial, trivial, _, rfl⟩

/-! ### Safe mode -/

/-- **safe mode**: a reaction whose reported stochastic propensity is positive has, for every species it
consumes (immediately or after the delay), at least the required number of copies — whatever its
propensity type. -/
theorem safe_guard (mode : Mode) (inputs : List (Nat × Int)) (q : Propensity α) (x p : Nat → α) (V t : α)
    (hpos : 0 < safeStochOne mode inputs x p V t q) : ∀ si ∈ inputs, (si.2 : α) ≤ x si.1 := by
  intro si hsi
  by_contra hlt
  have hb : safeBlocked inputs x = true := by
    unfold safeBlocked
    simp only [List.any_eq_true, decide_eq_true_eq]
    exact ⟨si, hsi, not_le.mp hlt⟩
  simp [safeStochOne, hb] at hpos

/-- the requirement recorded for an input species covers what the reaction can remove from it
(immediately or after the delay) **and** the number of copies it needs as reactants, catalysts
included: "its full complement of reactants". -/
theorem safeInputs_requirement (n : Nat) (U D : List (List Int)) (R : List (List Nat)) (r s : Nat) (req : Int)
    (h : (s, req) ∈ safeInputs n U D R r) :
    req ≥ -(entry U s r) ∧ req ≥ -(entry D s r) ∧ req ≥ (needOf R s r : Nat) ∧ req > 0 := by
  unfold safeInputs at h
  simp only [List.mem_filterMap, List.mem_range] at h
  obtain ⟨s', _, hs'⟩ := h
  split at hs'
  · simp only [Option.some.injEq, Prod.mk.injEq] at hs'
    obtain ⟨rfl, rfl⟩ := hs'
    omega
  · cases hs'

/-- every reactant of the reaction (with positive multiplicity) is among its inputs. -/
theorem safeInputs_complete (n : Nat) (U D : List (List Int)) (R : List (List Nat)) (r s : Nat)
    (hs : s < n) (hneed : 0 < needOf R s r) : ∃ req, (s, req) ∈ safeInputs n U D R r := by
  unfold safeInputs
  simp only [List.mem_filterMap, List.mem_range]
  have hc : entry U s r < 0 ∨ entry D s r < 0 ∨ ((needOf R s r : Nat) : Int) > 0 := Or.inr (Or.inr (by exact_mod_cast hneed))
  exact ⟨_, s, hs, if_pos hc⟩

/-- **safe mode, full complement**: if the safe interface reports a positive stochastic propensity for
reaction `r`, then every species has at least as many copies as `r` lists it among its reactants
(immediate and delayed), whatever the propensity type. -/
theorem safe_full_complement (mode : Mode) (n : Nat) (U D : List (List Int)) (R : List (List Nat)) (r : Nat)
    (q : Propensity α) (x p : Nat → α) (V t : α)
    (hpos : 0 < safeStochOne mode (safeInputs n U D R r) x p V t q) (s : Nat) (hs : s < n)
    (hneed : 0 < needOf R s r) : ((needOf R s r : Nat) : α) ≤ x s := by
  obtain ⟨req, hmem⟩ := safeInputs_complete n U D R r s hs hneed
  have h1 := safe_guard mode _ q x p V t hpos (s, req) hmem
  have h2 := (safeInputs_requirement n U D R r s req hmem).2.2.1
  have : ((needOf R s r : Nat) : α) ≤ (req : α) := by exact_mod_cast h2
  exact le_trans this h1


/-! ### Mass-action networks never report a negative count -/

section NonNeg
open Bioscrape.C01

/-- a vector of natural numbers (non-negative whole counts). -/
def IsNatVec (x : List α) : Prop := ∀ v ∈ x, ∃ n : Nat, v = (n : α)

theorem vecGet_nat (x : List α) (hx : IsNatVec x) (i : Nat) : ∃ n : Nat, vecGet x i = (n : α) :=
  getD_of_forall x i ⟨0, Nat.cast_zero.symm⟩ hx

theorem vecGet_nonneg (x : List α) (hx : IsNatVec x) (i : Nat) : 0 ≤ vecGet x i := by
  obtain ⟨n, hn⟩ := vecGet_nat x hx i
  rw [hn]; exact Nat.cast_nonneg n

theorem ff_nonneg (y : α) (m : Nat) : 0 ≤ ff y m := C01.ff_nonneg y m

/-- a weight `v` for a reaction with reactant list `R` can only select it when it is able to fire in the state `x`: `v` is
not negative, and when it is not zero every reactant is present in at least its multiplicity. -/
def EnablesAt (R : List Nat) (x : List α) (v : α) : Prop :=
  0 ≤ v ∧ (v ≠ 0 → ∀ s, ∃ n : Nat, vecGet x s = (n : α) ∧ R.count s ≤ n)

theorem EnablesAt.mul {R : List Nat} {x : List α} {v c : α} (h : EnablesAt R x v) (hc : 0 < c) :
    EnablesAt R x (v * c) :=
  ⟨mul_nonneg h.1 hc.le, fun hne => h.2 (left_ne_zero_of_mul hne)⟩

/-- the stochastic mass-action propensity of a state of whole counts (rate constant ≥ 0) is such a weight:
`C01.massAction_stoch_nonneg` and `C01.massAction_stoch_zero_of_short`, read together. -/
theorem massAction_stoch_nat (k : Nat) (R : List Nat) (x p : List α) (t : α) (hx : IsNatVec x)
    (hk : 0 ≤ vecGet p k) : EnablesAt R x ((createMassAction (α := α) k R).stoch (vecGet x) (vecGet p) t) := by
  have hnn := vecGet_nonneg x hx
  refine ⟨massAction_stoch_nonneg k R _ _ t hnn hk, fun hne s => ?_⟩
  obtain ⟨n, hn⟩ := vecGet_nat x hx s
  refine ⟨n, hn, not_lt.mp fun hlt => hne ?_⟩
  exact massAction_stoch_zero_of_short k R _ _ t hnn s (List.count_pos_iff.mp (by omega)) n hn hlt

/-- a plain mass-action network without rules whose reactions remove no more copies of a species (immediate
and delayed parts together) than they list it among their reactants. -/
structure MANet (m : SimModel α) (ks : List Nat) (Rs : List (List Nat)) (n : Nat) : Prop where
  plain : m.safe = false
  norules : m.rules = []
  props : m.props = List.zipWith (fun k R => createMassAction k R) ks Rs
  lens : ks.length = Rs.length
  colsU : ∀ j, j < Rs.length → (m.U.getD j []).length = n
  colsD : ∀ j, j < Rs.length → (m.D.getD j []).length = n
  consume : ∀ j, j < Rs.length → ∀ i, i < n →
    -(((Rs.getD j []).count i : Nat) : Int) ≤ entry m.U i j + entry m.D i j

/-- what the loop keeps: whole, non-negative counts in the current state and in every reported row. -/
structure NatState (n : Nat) (s : LoopState σ α) : Prop where
  cur : IsNatVec s.x
  len : s.x.length = n
  rows : ∀ r ∈ s.rows, IsNatVec r

theorem IsNatVec.record {rows : List (List α)} {x : List α} (hr : ∀ r ∈ rows, IsNatVec r) (hx : IsNatVec x) (k : Nat) :
    ∀ r ∈ rows ++ replicateRow k x, IsNatVec r := by
  intro r hr'
  rcases List.mem_append.mp hr' with h | h
  · exact hr r h
  · rw [(List.mem_replicate.mp h).2]; exact hx

/-- weights from which `sample_discrete` can only choose a reaction that is able to fire in the state `x`. -/
def Enabling (Rs : List (List Nat)) (x a : List α) : Prop :=
  a.length = Rs.length ∧ ∀ j (hj : j < a.length), EnablesAt (Rs.getD j []) x a[j]

theorem Enabling.nonneg {Rs : List (List Nat)} {x a : List α} (hE : Enabling Rs x a) : ∀ v ∈ a, 0 ≤ v := fun v hv => by
  obtain ⟨j, hj, rfl⟩ := List.mem_iff_getElem.mp hv
  exact (hE.2 j hj).1

theorem Enabling.sum_pos {Rs : List (List Nat)} {x a : List α} (hE : Enabling Rs x a)
    (hz : feq (arraySum a) 0 = false) : 0 < arraySum a := by
  rw [arraySum_eq_sum] at hz ⊢
  refine lt_of_le_of_ne (List.sum_nonneg hE.nonneg) fun h => ?_
  simp [feq, ← h] at hz

/-- the propensities of a mass-action network are such weights, in any mode of evaluation that has the property for a
single mass-action propensity (the plain stochastic form here, the volume-scaled one in C11). -/
theorem MANet.enabling {m : SimModel α} {ks : List Nat} {Rs : List (List Nat)} {n : Nat} (hnet : MANet m ks Rs n)
    (mode : Mode) (x p : List α) (V t : α) (hrate : ∀ k ∈ ks, 0 ≤ vecGet p k)
    (hone : ∀ k R, 0 ≤ vecGet p k →
      EnablesAt R x ((createMassAction (α := α) k R).evalMode mode (vecGet x) (vecGet p) V t)) :
    Enabling Rs x (m.propensities mode x p V t) := by
  rw [propensities_plain m mode x p V t hnet.plain, hnet.props]
  refine ⟨by simp [hnet.lens], fun j hj => ?_⟩
  have hjk : j < ks.length := by simp [hnet.lens] at hj; rw [hnet.lens]; exact hj
  have hjR : j < Rs.length := hnet.lens ▸ hjk
  simp only [List.getElem_map, List.getElem_zipWith, List.getD_eq_getElem?_getD, List.getElem?_eq_getElem hjR,
    Option.getD_some]
  exact hone _ _ (hrate _ (List.getElem_mem hjk))

/-- **the reaction chosen by `sample_discrete` can fire without making a count negative**: applying the chosen
reaction's immediate and delayed columns gives a vector of natural numbers. -/
theorem fire_natVec {m : SimModel α} {ks : List Nat} {Rs : List (List Nat)} {n : Nat} (hnet : MANet m ks Rs n)
    {x a : List α} (hE : Enabling Rs x a) (hlen : x.length = n) (u : α) (hu : 0 < u ∧ u ≤ 1)
    (hL : 0 < arraySum a) :
    let j := (sampleDiscreteFrom a (u * arraySum a)).toNat
    IsNatVec (addCol x (addCol (colOf m.U j) (colOf m.D j))) ∧ (addCol x (addCol (colOf m.U j) (colOf m.D j))).length = n := by
  rw [arraySum_eq_sum] at hL ⊢
  obtain ⟨j, hj, hsel, hw⟩ := sampleDiscrete_pos a u hE.nonneg hL hu.1 hu.2
  have henough := (hE.2 j hj).2 hw.ne'
  have hjR : j < Rs.length := hE.1 ▸ hj
  rw [hsel, Int.toNat_natCast]
  have hcU : (colOf (α := α) m.U j).length = x.length := by rw [colOf_length, hnet.colsU j hjR, hlen]
  have hcD : (colOf (α := α) m.D j).length = x.length := by rw [colOf_length, hnet.colsD j hjR, hlen]
  have hc : (addCol (colOf (α := α) m.U j) (colOf m.D j)).length = x.length := by
    rw [addCol_length _ _ (hcD.trans hcU.symm), hcU]
  have hl := addCol_length x _ hc
  refine ⟨fun v hv => ?_, hl.trans hlen⟩
  obtain ⟨i, hi, rfl⟩ := List.mem_iff_getElem.mp hv
  have hix : i < x.length := hl ▸ hi
  obtain ⟨k, hk, hcount⟩ := henough i
  have hk' : x.getD i 0 = (k : α) := hk
  have hcons := hnet.consume j hjR i (hlen ▸ hix)
  -- entry `i` of the new state is `k + (U[i,j] + D[i,j])`, an integer that is not negative
  have hval := addCol_getD x _ i hc hix
  rw [addCol_getD _ _ i (hcD.trans hcU.symm) (hcU ▸ hix), colOf_getD, colOf_getD, hk',
    List.getD_eq_getElem?_getD, List.getElem?_eq_getElem hi, Option.getD_some] at hval
  refine ⟨((k : Int) + (entry m.U i j + entry m.D i j)).toNat, ?_⟩
  rw [hval, ← Int.cast_natCast (R := α) (Int.toNat _), Int.toNat_of_nonneg (by omega)]
  push_cast; ring

/-- **one step keeps the counts whole and non-negative** (plain mass-action network, uniforms in `(0, 1]`). -/
theorem jumpStep_natState (g : Gen σ α) (m : SimModel α) (ks : List Nat) (Rs : List (List Nat)) (n : Nat)
    (times : List α) (s : LoopState σ α) (hnet : MANet m ks Rs n) (hrate : ∀ k ∈ ks, 0 ≤ vecGet s.p k)
    (hu : ∀ st : σ, 0 < (g st).1 ∧ (g st).1 ≤ 1) (h : NatState n s) :
    NatState n (jumpStep g m times s) ∧ (jumpStep g m times s).p = s.p := by
  obtain ⟨⟨hrows, -⟩, hp, -, -, hx⟩ := jumpStep_outcome g m times s
  simp only [hnet.norules, applyRules_nil] at hrows hp hx
  have hfire : IsNatVec (jumpStep g m times s).x ∧ (jumpStep g m times s).x.length = n := by
    rcases hx with hx | ⟨hL, -, hx⟩ <;> rw [hx]
    · exact ⟨h.cur, h.len⟩
    · exact fire_natVec hnet (hnet.enabling .stoch s.x s.p 1 s.t hrate
        (fun k R hk => massAction_stoch_nat k R s.x s.p s.t h.cur hk)) h.len _ (hu _) hL
  exact ⟨⟨hfire.1, hfire.2, hrows ▸ IsNatVec.record h.rows h.cur _⟩, hp⟩

/-- **whole runs**: every reported row and the final state of a plain mass-action network consist of whole,
non-negative counts — for every stream of uniforms in `(0, 1]`, any number of iterations of the jump process. -/
theorem jump_run_natState (g : Gen σ α) (m : SimModel α) (ks : List Nat) (Rs : List (List Nat)) (n : Nat)
    (times : List α) (hnet : MANet m ks Rs n) (hu : ∀ st : σ, 0 < (g st).1 ∧ (g st).1 ≤ 1)
    (fuel : Nat) (s s' : LoopState σ α) (hrate : ∀ k ∈ ks, 0 ≤ vecGet s.p k) (h : NatState n s)
    (hrun : runLoop (jumpStep g m times) times.length fuel s = some s') : NatState n s' :=
  (runLoop_induction _ _ (fun s => (∀ k ∈ ks, 0 ≤ vecGet s.p k) ∧ NatState n s)
    (fun s _ hs => by
      obtain ⟨hns, hp⟩ := jumpStep_natState g m ks Rs n times s hnet hs.1 hu hs.2
      exact ⟨hp ▸ hs.1, hns⟩) fuel s s' ⟨hrate, h⟩ hrun).1.2

/-- **mass-action networks never report a negative count** (`SSASimulator` on a plain mass-action network without
rules whose reactions remove no more than their reactants): every reported row is a vector of natural numbers,
for every stream of uniforms in `(0, 1]` and any number of iterations. -/
theorem ssa_run_nonneg (g : Gen σ α) (m : SimModel α) (ks : List Nat) (Rs : List (List Nat)) (n : Nat)
    (times : List α) (x0 p0 : List α) (g0 : σ) (vol0 : α) (q0 : DQ α) (hnet : MANet m ks Rs n)
    (hu : ∀ st : σ, 0 < (g st).1 ∧ (g st).1 ≤ 1) (hrate : ∀ k ∈ ks, 0 ≤ vecGet p0 k) (hx0 : IsNatVec x0)
    (hlen : x0.length = n) (fuel : Nat) (s' : LoopState σ α)
    (hrun : runLoop (ssaIter g m times) times.length fuel (initState m x0 p0 g0 vol0 q0) = some s') :
    ∀ r ∈ s'.rows, IsNatVec r :=
  (jump_run_natState g m ks Rs n times hnet hu fuel (strip (initState m x0 p0 g0 vol0 q0)) (strip s') hrate
    ⟨hx0, hlen, fun _ h => absurd h List.not_mem_nil⟩ (ssa_run_spec hrun)).rows

end NonNeg

/-! ### Non-vacuity -/
example : Reach [[(1 : ℚ), -1], [-2, 1]] [3, 0] [0, 1] := by
  have h1 : Reach [[(1 : ℚ), -1], [-2, 1]] [3, 0] (addCol [3, 0] [-2, 1]) :=
    Reach.step _ (by simp) (Reach.refl _)
  have h2 := Reach.step (cols := [[(1 : ℚ), -1], [-2, 1]]) [-2, 1] (by simp) h1
  have h3 := Reach.step (cols := [[(1 : ℚ), -1], [-2, 1]]) [1, -1] (by simp) h2
  norm_num [addCol] at h3
  exact h3

/-- the hypotheses `MANet` are met by an ordinary network: `2A → B` and `B → A` over two species. -/
example : MANet (α := ℚ)
    { nSpecies := 2, props := [createMassAction 0 [0, 0], createMassAction 1 [1]], U := [[-2, 1], [1, -1]], D := [[0, 0], [0, 0]],
      R := [], rules := [], delays := [], safe := false, dt := 1, t0 := 0, twoPi := 6 } [0, 1] [[0, 0], [1]] 2 := by
  refine ⟨rfl, rfl, rfl, rfl, ?_, ?_, ?_⟩
  · intro j hj
    have : j = 0 ∨ j = 1 := by simp at hj; omega
    rcases this with rfl | rfl <;> rfl
  · intro j hj
    have : j = 0 ∨ j = 1 := by simp at hj; omega
    rcases this with rfl | rfl <;> rfl
  · intro j hj i hi
    have hj' : j = 0 ∨ j = 1 := by simp at hj; omega
    have hi' : i = 0 ∨ i = 1 := by omega
    rcases hj' with rfl | rfl <;> rcases hi' with rfl | rfl <;> decide

end Bioscrape.C06
