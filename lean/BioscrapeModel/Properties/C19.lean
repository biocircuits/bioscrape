import BioscrapeModel.Proofs.Lineage
import BioscrapeModel.Properties.C20

/-
C19 — division conserves molecules and volume; lineage records are consistent.
-/
set_option linter.unusedSectionVars false
set_option linter.unusedVariables false

namespace Bioscrape.C19

/-! ### Binomial trials -/

section Binomial
variable {σ α : Type} [LT α] [DecidableLT α]

/-- the next `n` uniforms of the stream. -/
def draws (g : Gen σ α) : Nat → σ → List α
  | 0, _ => []
  | n + 1, s => (g s).1 :: draws g n (g s).2

/-- the stream after `n` draws. -/
def advance (g : Gen σ α) : Nat → σ → σ
  | 0, s => s
  | n + 1, s => advance g n (g s).2

theorem binomTrials_aux (g : Gen σ α) (p : α) (l : List Nat) (c : Nat) (s : σ) :
    l.foldl (fun (acc : Nat × σ) _ => ((if (g acc.2).1 < p then acc.1 + 1 else acc.1), (g acc.2).2)) (c, s)
      = (c + (draws g l.length s).countP (fun u => decide (u < p)), advance g l.length s) := by
  induction l generalizing c s with
  | nil => rfl
  | cons a l ih =>
    rw [List.foldl_cons, ih, List.length_cons, draws, advance, List.countP_cons]
    refine congrArg (·, _) ?_
    simp only [decide_eq_true_eq]
    split_ifs <;> omega

/-- **binomial counts**: `binom_rnd_f` returns the number of the next `n` uniforms that are below `p`, and
consumes exactly those `n` uniforms — for every stream.  (With independent uniform draws this is
Binomial(n, p); independence and uniformity of MT19937 are not part of the theorem.) -/
theorem binomTrials_count (g : Gen σ α) (n : Nat) (p : α) (s : σ) :
    binomTrials g n p s = ((draws g n s).countP (fun u => decide (u < p)), advance g n s) := by
  have := binomTrials_aux g p (List.range n) 0 s
  rwa [List.length_range, Nat.zero_add] at this

theorem draws_length (g : Gen σ α) (n : Nat) (s : σ) : (draws g n s).length = n := by
  induction n generalizing s with
  | zero => rfl
  | succ n ih => simp [draws, ih]

/-- a daughter never receives more than there is. -/
theorem binomTrials_le (g : Gen σ α) (n : Nat) (p : α) (s : σ) : (binomTrials g n p s).1 ≤ n := by
  rw [binomTrials_count]
  calc (draws g n s).countP _ ≤ (draws g n s).length := List.countP_le_length
    _ = n := draws_length g n s

end Binomial

/-! ### Species partition: one generic fold -/

section Split
variable {σ α : Type} [Field α] [LinearOrder α] [IsStrictOrderedRing α] [Transc α] [Trunc α]

/-- where a partition stands: every species in `P` has been split (the daughters sum to the mother and the
share satisfies `Q`), every other species is still the mother's count in both daughters. -/
structure SplitInv (state : List α) (acc : List α × List α × σ) (P : Nat → Prop) (Q : Nat → α → α → Prop) : Prop where
  lenD : acc.1.length = state.length
  lenE : acc.2.1.length = state.length
  split : ∀ i, i < state.length → P i →
    vecGet acc.1 i + vecGet acc.2.1 i = vecGet state i ∧ Q i (vecGet state i) (vecGet acc.1 i)
  dup : ∀ i, i < state.length → ¬ P i → vecGet acc.1 i = vecGet state i ∧ vecGet acc.2.1 i = vecGet state i

/-- the shape shared by every species-splitting step: `dstate[i] = dv; estate[i] -= dv`, with `dv` computed
from `dstate[i]` and satisfying `Q`. -/
def SplitStep (f : List α × List α × σ → Nat → List α × List α × σ) (L : List Nat) (Q : Nat → α → α → Prop) : Prop :=
  ∀ acc i, i ∈ L → ∃ dv s', f acc i = (acc.1.set i dv, acc.2.1.set i (vecGet acc.2.1 i - dv), s') ∧ Q i (vecGet acc.1 i) dv

section Fold
variable {f : List α × List α × σ → Nat → List α × List α × σ} {L : List Nat} {Q Q' : Nat → α → α → Prop}
  {state : List α} {acc : List α × List α × σ} {P P' : Nat → Prop}

theorem SplitStep.mono (hf : SplitStep f L Q) (hQ : ∀ i ∈ L, ∀ x d, Q i x d → Q' i x d) : SplitStep f L Q' := by
  intro acc i hi
  obtain ⟨dv, s', he, hq⟩ := hf acc i hi
  exact ⟨dv, s', he, hQ i hi _ _ hq⟩

theorem SplitInv.init (state : List α) (s : σ) (Q : Nat → α → α → Prop) :
    SplitInv state (state, state, s) (fun _ => False) Q :=
  ⟨rfl, rfl, fun _ _ h => h.elim, fun _ _ _ => ⟨rfl, rfl⟩⟩

theorem SplitInv.congr (h : SplitInv state acc P Q) (hP : ∀ i, P i ↔ P' i) : SplitInv state acc P' Q :=
  (funext fun i => propext (hP i) : P = P') ▸ h

/-- one step: a species that was still duplicated becomes a split one. -/
theorem SplitInv.step (h : SplitInv state acc P Q) {a : Nat} (ha : ¬ P a) {dv : α} (s' : σ) (hq : Q a (vecGet acc.1 a) dv) :
    SplitInv state (acc.1.set a dv, acc.2.1.set a (vecGet acc.2.1 a - dv), s') (fun i => P i ∨ i = a) Q := by
  refine ⟨by simp [h.lenD], by simp [h.lenE], fun i hi hP => ?_, fun i hi hP => ?_⟩
  · by_cases hia : i = a
    · subst hia
      obtain ⟨hd, he⟩ := h.dup i hi ha
      rw [vecGet_set_self _ _ (h.lenD ▸ hi), vecGet_set_self _ _ (h.lenE ▸ hi), he]
      exact ⟨add_sub_cancel _ _, hd ▸ hq⟩
    · simp only [vecGet_set_ne _ _ (Ne.symm hia)]
      exact h.split i hi (hP.resolve_right hia)
  · rw [not_or] at hP
    simp only [vecGet_set_ne _ _ (Ne.symm hP.2)]
    exact h.dup i hi hP.1

/-- folding a splitting step over species not yet split, each named once, splits exactly those. -/
theorem SplitInv.foldl (hf : SplitStep f L Q) :
    ∀ (rest : List Nat) (P : Nat → Prop) (acc : List α × List α × σ), (∀ i ∈ rest, i ∈ L) → rest.Nodup →
      (∀ i ∈ rest, ¬ P i) → SplitInv state acc P Q → SplitInv state (rest.foldl f acc) (fun i => P i ∨ i ∈ rest) Q := by
  intro rest
  induction rest with
  | nil => intro P acc _ _ _ h; exact h.congr (by simp)
  | cons a rest ih =>
    intro P acc hsub hnd hdisj h
    obtain ⟨dv, s', hfa, hq⟩ := hf acc a (hsub a List.mem_cons_self)
    rw [List.nodup_cons] at hnd
    rw [List.foldl_cons, hfa]
    refine (ih _ _ (fun i hi => hsub i (List.mem_cons_of_mem _ hi)) hnd.2 ?_
      (h.step (hdisj a List.mem_cons_self) s' hq)).congr fun i => by rw [List.mem_cons, or_assoc]
    rintro i hi (hP | rfl)
    exacts [hdisj i (List.mem_cons_of_mem _ hi) hP, hnd.1 hi]

end Fold

theorem fold_split (f : List α × List α × σ → Nat → List α × List α × σ) (Q : Nat → α → α → Prop) (state : List α)
    (L : List Nat) (hf : SplitStep f L Q) (hnd : L.Nodup) :
    ∀ (done : List Nat) (rest : List Nat) (acc : List α × List α × σ), (∀ i ∈ rest, i ∈ L) → rest.Nodup →
      (∀ i ∈ rest, i ∉ done) → SplitInv state acc (· ∈ done) Q →
      SplitInv state (rest.foldl f acc) (fun i => i ∈ done ∨ i ∈ rest) Q :=
  fun done rest => SplitInv.foldl hf rest (· ∈ done)

end Split

/-! ### The three step functions -/

section Steps
variable {σ α : Type} [Field α] [LinearOrder α] [IsStrictOrderedRing α] [FloorRing α] [Transc α] [Trunc α]
  [C20.LawfulTrunc α]

/-- what a binomially split species receives: a natural number of molecules, at most `int(x + 0.5)`. -/
def QBin (x dv : α) : Prop := ∃ k : Nat, dv = (k : α) ∧ k ≤ (Trunc.trunc (x + 1 / 2) : Int).toNat

/-- what a perfectly split species receives when its share `p * x` is not negative: a whole number of
molecules within `tol` of the share. -/
def QPerfect (p tol : α) (strict : Bool) (x dv : α) : Prop :=
  0 ≤ p * x → (∃ z : Int, dv = (z : α)) ∧ (if strict then |dv - p * x| < tol else |dv - p * x| ≤ tol)

theorem splitBinomial_step (g : Gen σ α) (p : α) (L : List Nat) :
    SplitStep (splitBinomial g p) L (fun _ => QBin) := by
  intro acc i _
  exact ⟨_, _, rfl, _, rfl, binomTrials_le g _ p _⟩

theorem trunc_nonneg (d : α) (h : 0 ≤ d) : (Trunc.trunc d : Int) = ⌊d⌋ := by
  rw [C20.LawfulTrunc.trunc_eq, if_pos h]

/-- a perfectly split species may receive the floor of its share or one molecule more — and then, when the
bound is strict, only if the share is not whole. -/
theorem QPerfect.of_floor {p x dv : α} {strict : Bool}
    (h : 0 ≤ p * x → dv = ⌊p * x⌋ ∨ dv = ⌊p * x⌋ + 1 ∧ (strict = true → (⌊p * x⌋ : α) < p * x)) :
    QPerfect p 1 strict x dv := by
  intro hd
  have h0 : 0 ≤ p * x - ⌊p * x⌋ := Int.fract_nonneg _
  have h1 : p * x - ⌊p * x⌋ < 1 := Int.fract_lt_one _
  have key : (∃ z : Int, dv = z) ∧ |dv - p * x| ≤ 1 ∧ (strict = true → |dv - p * x| < 1) := by
    rcases h hd with rfl | ⟨rfl, hs⟩
    · -- the distance is the fractional part of the share
      have : |(⌊p * x⌋ : α) - p * x| < 1 := by rwa [abs_sub_comm, abs_of_nonneg h0]
      exact ⟨⟨_, rfl⟩, this.le, fun _ => this⟩
    · -- the distance is one less the fractional part
      have e : (⌊p * x⌋ : α) + 1 - p * x = 1 - (p * x - ⌊p * x⌋) := by ring
      rw [e, abs_of_nonneg (sub_nonneg.mpr h1.le)]
      exact ⟨⟨⌊p * x⌋ + 1, by push_cast; rfl⟩, sub_le_self 1 h0, fun hst => sub_lt_self 1 (sub_pos.mpr (hs hst))⟩
  refine ⟨key.1, ?_⟩
  cases strict
  exacts [key.2.1, key.2.2 rfl]

theorem splitPerfectLineage_step (g : Gen σ α) (p eps : α) (heps : 0 ≤ eps) (L : List Nat) :
    SplitStep (splitPerfectLineage g p eps) L (fun _ => QPerfect p 1 true) := by
  intro acc i _
  unfold splitPerfectLineage
  simp only
  refine ⟨_, _, rfl, QPerfect.of_floor fun hd => ?_⟩
  rw [trunc_nonneg _ hd]
  split_ifs with h
  · exact Or.inl rfl
  · -- the floor was refused although it is not negative: the share exceeds it by more than `eps`
    have : ¬ p * vecGet acc.1 i - ⌊p * vecGet acc.1 i⌋ ≤ eps := fun hc => h ⟨hc, Int.floor_nonneg.mpr hd⟩
    exact Or.inr ⟨rfl, fun _ => sub_pos.mp (heps.trans_lt (not_le.mp this))⟩
  · exact Or.inl rfl

theorem splitPerfectGeneral_step (g : Gen σ α) (p eps : α) (L : List Nat) :
    SplitStep (splitPerfectGeneral g p eps) L (fun _ => QPerfect p 1 false) := by
  intro acc i _
  unfold splitPerfectGeneral
  simp only
  refine ⟨_, _, rfl, QPerfect.of_floor fun hd => ?_⟩
  have hd' := add_nonneg hd one_half_pos.le
  rw [Nat.cast_ofNat, trunc_nonneg _ hd, trunc_nonneg _ hd', ite_neg_eq_abs]
  split_ifs
  · exact (floor_add_half _).imp (congrArg Int.cast) fun e => ⟨by rw [e]; push_cast; rfl, nofun⟩
  · exact Or.inr ⟨rfl, nofun⟩
  · exact Or.inl rfl

end Steps

/-! ### The partitions -/

section Partitions
variable {σ α : Type} [Field α] [LinearOrder α] [IsStrictOrderedRing α] [FloorRing α] [Transc α] [Trunc α]
  [C20.LawfulTrunc α]

/-- what a partition of `state` into `d`, `e` must satisfy, species by species: those in `L1` are split with
shares satisfying `Q1`, those in `L2` with shares satisfying `Q2`, all others are duplicated. -/
def PartitionSpec (state d e : List α) (L1 L2 : List Nat) (Q1 Q2 : α → α → Prop) : Prop :=
  d.length = state.length ∧ e.length = state.length ∧
  ∀ i, i < state.length →
    (i ∈ L1 → vecGet d i + vecGet e i = vecGet state i ∧ Q1 (vecGet state i) (vecGet d i)) ∧
    (i ∈ L2 → vecGet d i + vecGet e i = vecGet state i ∧ Q2 (vecGet state i) (vecGet d i)) ∧
    (i ∉ L1 → i ∉ L2 → vecGet d i = vecGet state i ∧ vecGet e i = vecGet state i)

theorem two_phase (f1 f2 : List α × List α × σ → Nat → List α × List α × σ) (Q1 Q2 : α → α → Prop) (L1 L2 : List Nat)
    (h1 : SplitStep f1 L1 (fun _ => Q1)) (h2 : SplitStep f2 L2 (fun _ => Q2)) (hnd : (L1 ++ L2).Nodup)
    (state : List α) (s : σ) :
    PartitionSpec state (L2.foldl f2 (L1.foldl f1 (state, state, s))).1 (L2.foldl f2 (L1.foldl f1 (state, state, s))).2.1
      L1 L2 Q1 Q2 := by
  have hnd' := List.nodup_append.mp hnd
  -- one invariant for both phases: the share of a species obeys the rule of the list that names it
  let Q : Nat → α → α → Prop := fun i x d => (i ∈ L1 → Q1 x d) ∧ (i ∈ L2 → Q2 x d)
  have hs1 : SplitStep f1 L1 Q := h1.mono fun i hi _ _ hq => ⟨fun _ => hq, fun hi2 => absurd rfl (hnd'.2.2 i hi i hi2)⟩
  have hs2 : SplitStep f2 L2 Q := h2.mono fun i hi _ _ hq => ⟨fun hi1 => absurd rfl (hnd'.2.2 i hi1 i hi), fun _ => hq⟩
  have p1 := SplitInv.foldl hs1 L1 _ _ (fun _ h => h) hnd'.1 (fun _ _ => id) (SplitInv.init state s Q)
  have p2 := SplitInv.foldl hs2 L2 _ _ (fun _ h => h) hnd'.2.1
    (by rintro i hi (h | h); exacts [h, hnd'.2.2 i h i hi rfl]) p1
  refine ⟨p2.lenD, p2.lenE, fun i hi => ⟨fun h => ?_, fun h => ?_, fun n1 n2 => ?_⟩⟩
  · have := p2.split i hi (Or.inl (Or.inr h)); exact ⟨this.1, this.2.1 h⟩
  · have := p2.split i hi (Or.inr h); exact ⟨this.1, this.2.2 h⟩
  · exact p2.dup i hi (by rintro ((h | h) | h); exacts [h, n1 h, n2 h])

/-- **PerfectBinomialVolumeSplitter**: every species is conserved, the first daughter receiving a natural
number of at most `int(x + 0.5)` molecules; the volume is halved. -/
theorem partitionPerfectBinomial_spec (g : Gen σ α) (state : List α) (vol : α) (s : σ) :
    let out := (partitionPerfectBinomial g state vol s).1
    PartitionSpec state out.dState out.eState [] (List.range state.length) (fun _ _ => True) QBin ∧
      out.dVol + out.eVol = vol := by
  intro out
  refine ⟨?_, ?_⟩
  · exact two_phase (σ := σ) (fun acc _ => acc) (splitBinomial g (1 / ((2 : Nat) : α))) (fun _ _ => True) QBin []
      (List.range state.length) (fun _ _ h => nomatch h) (splitBinomial_step g _ _) List.nodup_range state s
  · show vol / ((2 : Nat) : α) + vol / ((2 : Nat) : α) = vol
    rw [Nat.cast_ofNat, add_halves]

/-- the share `p` of the first daughter in `GeneralVolumeSplitter`. -/
def generalP (g : Gen σ α) (noise : α) (s : σ) : α := 1 / ((2 : Nat) : α) - (g s).1 * noise

/-- `partitionGeneral_spec` for any tolerance `eps`: the accepted amount, too, is the floor of the share or one
more. -/
theorem partitionGeneral_split (g : Gen σ α) (noise eps : α) (perfect binomial : List Nat) (state : List α) (vol : α)
    (s : σ) (hnd : (perfect ++ binomial).Nodup) :
    let out := (partitionGeneral g noise eps perfect binomial state vol s).1
    let p := generalP g noise s
    PartitionSpec state out.dState out.eState perfect binomial (QPerfect p 1 false) QBin ∧
      out.dVol = vol * p ∧ out.eVol = vol * (1 - p) ∧ out.dVol + out.eVol = vol := by
  intro out p
  refine ⟨?_, rfl, rfl, mul_add_mul_one_sub vol p⟩
  exact two_phase (splitPerfectGeneral g p eps) (splitBinomial g p) _ _ perfect binomial
    (splitPerfectGeneral_step g p eps _) (splitBinomial_step g p _) hnd state (g s).2

/-- **GeneralVolumeSplitter** (each species named at most once across the perfect and binomial lists):
perfect and binomial species are conserved, a perfect share is a whole number within one molecule of
`p * x`, a binomial share is a natural number of at most `int(x + 0.5)`, every other species is copied to both
daughters, and the volumes are `p * vol` and `(1 - p) * vol`. -/
theorem partitionGeneral_spec (g : Gen σ α) (noise eps : α) (perfect binomial : List Nat) (state : List α) (vol : α)
    (s : σ) (hnd : (perfect ++ binomial).Nodup) (heps : eps ≤ 1) :
    let out := (partitionGeneral g noise eps perfect binomial state vol s).1
    let p := generalP g noise s
    PartitionSpec state out.dState out.eState perfect binomial (QPerfect p 1 false) QBin ∧
      out.dVol = vol * p ∧ out.eVol = vol * (1 - p) ∧ out.dVol + out.eVol = vol :=
  partitionGeneral_split g noise eps perfect binomial state vol s hnd

/-- the share `p` of the first daughter in `LineageVolumeSplitter`. -/
def lineageP (g : Gen σ α) (vs : VolSplit) (noise : α) (s : σ) : α :=
  match vs with
  | .binomial => 1 / ((2 : Nat) : α) - (g s).1 * noise / ((2 : Nat) : α)
  | .duplicate => 1
  | .perfect => 1 / ((2 : Nat) : α)

/-- **LineageVolumeSplitter** (without custom functions; its constructor names every species exactly once):
conservation and shares as for the general splitter with the strict bound `|d - p x| < 1`; volumes
`p vol`, `(1 - p) vol` that sum to the mother's — or two copies of the mother's volume when the volume is
duplicated. -/
theorem partitionLineage_spec (g : Gen σ α) (vs : VolSplit) (noise eps : α) (perfect binomial : List Nat)
    (state : List α) (vol : α) (s : σ) (hnd : (perfect ++ binomial).Nodup) (heps : 0 ≤ eps) :
    let out := (partitionLineage g vs noise eps perfect binomial state vol s).1
    let p := lineageP g vs noise s
    PartitionSpec state out.dState out.eState perfect binomial (QPerfect p 1 true) QBin ∧
      (vs = .duplicate → out.dVol = vol ∧ out.eVol = vol) ∧
      (vs ≠ .duplicate → out.dVol = vol * p ∧ out.eVol = vol * (1 - p) ∧ out.dVol + out.eVol = vol) := by
  intro out p
  have hstate := fun s' => two_phase (splitPerfectLineage g p eps) (splitBinomial g p) _ _ perfect binomial
    (splitPerfectLineage_step g p eps heps _) (splitBinomial_step g p _) hnd state s'
  cases vs
  · exact ⟨hstate _, nofun, fun _ => ⟨rfl, rfl, mul_add_mul_one_sub vol p⟩⟩
  · exact ⟨hstate _, fun _ => ⟨rfl, rfl⟩, fun h => absurd rfl h⟩
  · have hp : 1 - p = p := by
      show (1 : α) - 1 / ((2 : Nat) : α) = 1 / ((2 : Nat) : α)
      rw [Nat.cast_ofNat, sub_half]
    refine ⟨hstate _, nofun, fun _ => ⟨rfl, by rw [hp]; rfl, ?_⟩⟩
    calc out.dVol + out.eVol = vol * p + vol * (1 - p) := by rw [hp]; rfl
      _ = vol := mul_add_mul_one_sub vol p

/-- **positive volumes**: with a uniform in `[0, 1]` and a partition noise in `[0, 1]` whose product is below 1
(always so for noise < 1), both daughters of a cell of positive volume have positive volume. -/
theorem partitionLineage_volume_pos (g : Gen σ α) (vs : VolSplit) (noise eps : α) (perfect binomial : List Nat)
    (state : List α) (vol : α) (s : σ) (hv : 0 < vol) (hu0 : 0 ≤ (g s).1) (hn0 : 0 ≤ noise) (hun : (g s).1 * noise < 1) :
    0 < (partitionLineage g vs noise eps perfect binomial state vol s).1.dVol ∧
    0 < (partitionLineage g vs noise eps perfect binomial state vol s).1.eVol := by
  have h2 : (0 : α) < ((2 : Nat) : α) := Nat.cast_pos.mpr two_pos
  cases vs
  · -- the first share is `1/2 - u * noise / 2`, more than 0 and at most 1/2
    have hpos := sub_pos.mpr (div_lt_div_of_pos_right hun h2)
    have hlt := (sub_le_self (1 / ((2 : Nat) : α)) (div_nonneg (mul_nonneg hu0 hn0) h2.le)).trans_lt
      ((div_lt_one h2).mpr (Nat.one_lt_cast.mpr one_lt_two))
    exact ⟨mul_pos hv hpos, mul_pos hv (sub_pos.mpr hlt)⟩
  · exact ⟨hv, hv⟩
  · have := mul_pos hv (one_div_pos.mpr h2)
    exact ⟨this, this⟩

/-- a binomially split species with a whole, nonnegative count leaves both daughters whole, nonnegative
counts. -/
theorem QBin_nat (m : Nat) (dv : α) (h : QBin (m : α) dv) : ∃ k : Nat, dv = (k : α) ∧ k ≤ m := by
  obtain ⟨k, hk, hle⟩ := h
  have h0 : (0 : α) ≤ m + 1 / 2 := add_nonneg m.cast_nonneg one_half_pos.le
  rw [trunc_nonneg _ h0, floor_natCast_add_half, Int.toNat_natCast] at hle
  exact ⟨k, hk, hle⟩

end Partitions

/-! ### The single-cell loop: every reported row was written, with positive volume -/

section CellLoop
variable {σ α : Type} [Field α] [LinearOrder α] [IsStrictOrderedRing α] [Transc α] [Trunc α]

/-- the volume stored in row `i` of the result arrays. -/
def rowVol (res : List (List α × α)) (i : Nat) : α := (res.getD i ([], 0)).2

/-- what holds of the loop state of `SimulateSingleCell` at the head of every iteration. -/
structure CellInv (n : Nat) (s : CellLoop σ α) : Prop where
  len : s.results.length = n
  volPos : s.raised = false → 0 < s.vol
  written : ∀ i, i < s.idx → i < n → 0 < rowVol s.results i
  flags : s.stop = false → s.divided < 0 ∧ s.dead < 0
  stopped : s.stop = true → (s.divided ≥ 0 ∨ s.dead ≥ 0)

section Preservation
variable {n : Nat} {s : CellLoop σ α} (h : CellInv n s)
include h

/-- the recording loop writes the current volume, which is positive, to the next `k` rows. -/
theorem CellInv.written_after (hr : s.raised = false) (k : Nat) (x : List α) :
    ∀ i, i < s.idx + k → i < n → 0 < rowVol (writeRows s.results s.idx k (x, s.vol)) i := by
  intro i hi hn
  rw [rowVol, writeRows_getD]
  split_ifs with hc
  · exact h.volPos hr
  · exact h.written i (by have := h.len; omega) hn

theorem CellInv.recorded (times : List α) (pre : CellPre σ α) (tm : CellTiming σ α) (hr : s.raised = false)
    (hs : s.stop = false) (hpre : ¬ (pre.dead ≥ 0 ∨ pre.dv ≥ 0)) : CellInv n (cellRecorded times s pre tm) :=
  ⟨(writeRows_length _ _ _ _).trans h.len, h.volPos, h.written_after hr _ _,
    fun _ => ⟨not_le.mp (mt Or.inr hpre), not_le.mp (mt Or.inl hpre)⟩, fun h' => absurd (hs.symm.trans h') nofun⟩

/-- a new volume, with the exception flag set exactly when it is not positive. -/
theorem CellInv.setVol (v : α) (gs : σ) : CellInv n { s with vol := v, g := gs, raised := decide (v ≤ 0) } :=
  ⟨h.len, fun hr => not_le.mp (of_decide_eq_false hr), h.written, h.flags, h.stopped⟩

/-- the loop is left with a division or death flag. -/
theorem CellInv.halt (x p : List α) (gs : σ) {dv dead : Int} (hf : dv ≥ 0 ∨ dead ≥ 0) :
    CellInv n { s with x := x, p := p, g := gs, divided := dv, dead := dead, stop := true } :=
  ⟨h.len, h.volPos, h.written, nofun, fun _ => hf⟩

theorem cellEventStep_inv (g : Gen σ α) (m : CellModel α) (a : List α) (Lambda : α) :
    CellInv n (cellEventStep g m a Lambda s) := by
  unfold cellEventStep
  simp only
  -- `iteInduction` leaves each branch as it stands; `split_ifs` rewrites the whole record in every branch
  refine iteInduction (fun _ => ?_) fun _ => iteInduction (fun _ => ?_) fun _ => iteInduction (fun _ => ?_) fun _ =>
    iteInduction (fun _ => ?_) fun _ => ?_
  · exact ⟨h.len, h.volPos, h.written, h.flags, h.stopped⟩
  · exact ⟨h.len, h.volPos, h.written, h.flags, h.stopped⟩
  · exact h.setVol _ _
  · exact h.halt _ _ _ (Or.inl (Int.natCast_nonneg _))
  · exact h.halt _ _ _ (Or.inr (Int.natCast_nonneg _))

/-- **loop invariant**: one iteration from a running state keeps every written row's volume positive, the
current volume positive unless an exception is being raised, and the division/death flags set exactly when the
loop has been left. -/
theorem cellIter_inv (g : Gen σ α) (m : CellModel α) (times : List α) (dt final t0 v0 : α)
    (hr : s.raised = false) (hs : s.stop = false) : CellInv n (cellIter g m times dt final t0 v0 s) := by
  unfold cellIter
  simp only
  refine iteInduction (fun h1 => ?_) fun _ => iteInduction (fun h2 => ?_) fun h2 => iteInduction (fun _ => ?_) fun _ => ?_
  · exact h.halt _ _ _ (Or.inr h1.1)
  · exact h.halt _ _ _ h2.symm
  · exact (h.recorded times _ _ hr hs h2).setVol _ _
  · exact cellEventStep_inv (h.recorded times _ _ hr hs h2) g m _ _

/-- the final push, too, writes a positive volume; afterwards at least one row has been written. -/
theorem cellPush_inv (times : List α) (hr : s.raised = false) :
    CellInv n (cellPush times s) ∧ 1 ≤ (cellPush times s).idx := by
  unfold cellPush
  split_ifs with hpush
  · exact ⟨⟨(List.length_set ..).trans h.len, h.volPos, h.written_after hr 1 s.x, h.flags, h.stopped⟩,
      Nat.le_add_left 1 _⟩
  · exact ⟨h, Nat.one_le_iff_ne_zero.mpr fun h0 => hpush (Or.inl h0)⟩

end Preservation

theorem cellPush_raised (times : List α) (s : CellLoop σ α) : (cellPush times s).raised = s.raised := by
  unfold cellPush
  split_ifs <;> rfl

/-- when a cell that raised no exception has left the loop, the state after the final push still satisfies the
invariant, and no more rows are reported than were written. -/
theorem cellFinish_spec (times : List α) {n : Nat} {s : CellLoop σ α} (h : CellInv n s) (hn : times.length = n)
    (h1 : 1 ≤ n) (hstop : s.running n = false) (hr : (cellFinish times s).1.raised = false)
    (hb : (cellFinish times s).1.bad = false) :
    CellInv n (cellFinish times s).1 ∧ 1 ≤ (cellFinish times s).2 ∧ (cellFinish times s).2 ≤ n ∧
      (cellFinish times s).2 ≤ (cellFinish times s).1.idx := by
  by_cases hdd : s.divided ≥ 0 ∨ s.dead ≥ 0
  · simp only [cellFinish, if_pos hdd] at hr ⊢
    obtain ⟨hinv, hidx⟩ := cellPush_inv h times ((cellPush_raised times s).symm.trans hr)
    refine ⟨hinv, ?_⟩
    rw [if_neg (Nat.ne_of_gt hidx)]
    omega
  · -- neither divided nor dead, no exception: the loop ran to the end of the grid
    simp only [cellFinish, if_neg hdd] at hr hb ⊢
    have hns : s.stop = false := Bool.eq_false_iff.mpr fun hc => hdd (h.stopped hc)
    have : n ≤ s.idx := not_lt.mp fun hlt =>
      Bool.false_ne_true (hstop.symm.trans (CellLoop.running_iff.mpr ⟨hlt, hns, hr, hb⟩))
    exact ⟨h, hn ▸ h1, hn.le, hn ▸ this⟩

theorem cellInit_inv (m : CellModel α) (p0 times : List α) (v : Cell α) (gs : σ) (hvol : 0 < v.vol) :
    CellInv times.length (cellInit m p0 times v gs) :=
  ⟨List.length_replicate, fun _ => hvol, fun _ hi => absurd hi (Nat.not_lt_zero _), 
    fun _ => ⟨Int.negSucc_lt_zero 0, Int.negSucc_lt_zero 0⟩, nofun⟩

theorem take_vols_pos (res : List (List α × α)) (len : Nat)
    (h : ∀ i, i < len → i < res.length → 0 < rowVol res i) : ∀ v ∈ (res.take len).map (·.2), 0 < v := by
  intro v hv
  obtain ⟨row, hrow, rfl⟩ := List.mem_map.mp hv
  obtain ⟨i, hi, rfl⟩ := List.mem_take_iff_getElem.mp hrow
  rw [Nat.lt_min] at hi
  have := h i hi.1 hi.2
  rwa [rowVol, List.getD_eq_getElem _ _ hi.2] at this

/-- **every reported row was written, with positive volume** (`SimulateSingleCell`, any model, grid of at least
one point, cell, stream, number of iterations): when the call returns a result (no exception), the time axis,
the rows and the volume trace have the same length, which is at least one, the time axis is an initial piece
of the grid, and every reported volume is positive — in particular no row is reported that the recording
loop (or the final push at division or death) did not write, whatever made the loop stop. -/
theorem cell_reported_positive (g : Gen σ α) (m : CellModel α) (p0 times : List α) (v : Cell α) (fuel : Nat) (gs : σ)
    (hn : 1 ≤ times.length) :
    let r := (simulateCell g m p0 times v fuel gs).1
    r.raised = false → r.bad = false →
      r.rows.length = r.times.length ∧ r.vols.length = r.times.length ∧ 1 ≤ r.times.length ∧
      r.times = times.take r.times.length ∧ ∀ x ∈ r.vols, 0 < x := by
  intro r
  revert r
  unfold simulateCell
  simp only
  split_ifs with hbadgrid
  · exact nofun
  split
  · exact fun _ => nofun
  next s hrun =>
    intro hr hb
    obtain ⟨hinv, hstop⟩ := runCell_induction _ _ (CellInv times.length)
      (fun s h hc => cellIter_inv h g m times _ _ _ _ (CellLoop.running_iff.mp hc).2.2.1 (CellLoop.running_iff.mp hc).2.1) fuel _ s
      (cellInit_inv m p0 times v gs (not_le.mp (mt Or.inr hbadgrid))) hrun
    obtain ⟨hfin, h1, hle, hidx⟩ := cellFinish_spec times hinv rfl hn hstop hr hb
    refine ⟨by simp [hfin.len], by simp [hfin.len], ?_, ?_, ?_⟩
    · rw [List.length_take]; omega
    · rw [List.length_take, Nat.min_eq_left hle]
    · exact take_vols_pos _ _ fun i hi hin => hfin.written i (Nat.lt_of_lt_of_le hi hidx) (hfin.len ▸ hin)

end CellLoop

/-! ### The lineage work list -/

section Forest
variable {κ ρ γ : Type}

/-- what holds of the lineage and the queue of `SimulateCellLineage` at every turn. `fin` reads the final
cell state off a result (`get_final_cell_state`). -/
structure ForestInv (fin : ρ → κ) (split : κ → γ → (κ × κ) × γ) (sim : κ → κ → γ → (ρ × κ × Bool) × γ)
    (f : Forest κ ρ) : Prop where
  /-- a cell that names a mother is one of the two daughters that mother lists -/
  up : ∀ (i : Nat) (nd : Node ρ) (p : Nat), f.nodes[i]? = some nd → nd.parent = some p →
    ∃ (pn : Node ρ) (a b : Nat), f.nodes[p]? = some pn ∧ pn.daughters = some (a, b) ∧ (i = a ∨ i = b)
  /-- the daughters a mother lists are two different cells of the lineage that both name her as their mother -/
  down : ∀ (p : Nat) (pn : Node ρ) (a b : Nat), f.nodes[p]? = some pn → pn.daughters = some (a, b) →
    a ≠ b ∧ ∃ (na nb : Node ρ), f.nodes[a]? = some na ∧ f.nodes[b]? = some nb ∧ na.parent = some p ∧ nb.parent = some p
  /-- every daughter was simulated from one of the two parts of a partition of her mother's final state -/
  born : ∀ (i : Nat) (nd : Node ρ) (p : Nat), f.nodes[i]? = some nd → nd.parent = some p →
    ∃ (pn : Node ρ) (c c' : γ), f.nodes[p]? = some pn ∧
      (nd.result = (sim (fin pn.result) (split (fin pn.result) c).1.1 c').1.1 ∨
       nd.result = (sim (fin pn.result) (split (fin pn.result) c).1.2 c').1.1)
  /-- queue entries point into the lineage, carry the final state of their cell, and no cell is queued twice -/
  queued : ∀ (j : Nat) (cs : κ) (sid : Nat), f.queue[j]? = some (cs, sid) →
    ∃ (nd : Node ρ), f.nodes[sid]? = some nd ∧ cs = fin nd.result ∧ (f.pos ≤ j → nd.daughters = none)
  distinct : (f.queue.map (·.2)).Nodup

section Preservation
variable {fin : ρ → κ} {split : κ → γ → (κ × κ) × γ} {sim : κ → κ → γ → (ρ × κ × Bool) × γ} {f : Forest κ ρ}

section
variable (h : ForestInv fin split sim f)
include h

theorem ForestInv.queue_lt {e : κ × Nat} (he : e ∈ f.queue) : e.2 < f.nodes.length := by
  obtain ⟨j, hj⟩ := List.getElem?_of_mem he
  obtain ⟨nd, hnd, -⟩ := h.queued j e.1 e.2 hj
  exact (List.getElem?_eq_some_iff.mp hnd).1

theorem ForestInv.queue_inj {j k : Nat} {cs cs' : κ} {sid : Nat} (hj : f.queue[j]? = some (cs, sid))
    (hk : f.queue[k]? = some (cs', sid)) : j = k := by
  refine (List.getElem?_inj ?_ h.distinct).mp (by rw [List.getElem?_map, List.getElem?_map, hj, hk]; rfl)
  rw [List.length_map]
  exact (List.getElem?_eq_some_iff.mp hj).1

/-- new queue entries that point at new schnitzes, each at most once, keep the queued schnitzes distinct. -/
theorem ForestInv.distinct_append {new : List (κ × Nat)} (hnd : (new.map (·.2)).Nodup)
    (hnew : ∀ e ∈ new, f.nodes.length ≤ e.2) : ((f.queue ++ new).map (·.2)).Nodup := by
  rw [List.map_append, List.nodup_append]
  refine ⟨h.distinct, hnd, fun a ha b hb => ?_⟩
  obtain ⟨ea, hea, rfl⟩ := List.mem_map.mp ha
  obtain ⟨eb, heb, rfl⟩ := List.mem_map.mp hb
  exact Nat.ne_of_lt (Nat.lt_of_lt_of_le (h.queue_lt hea) (hnew eb heb))

/-- a cell that is done, dead, or divided too fast is passed over. -/
theorem ForestInv.skip : ForestInv fin split sim { f with pos := f.pos + 1 } :=
  ⟨h.up, h.down, h.born, fun j cs sid hj => by
    obtain ⟨nd, hnd, hcs, hd⟩ := h.queued j cs sid hj
    exact ⟨nd, hnd, hcs, fun hle => hd (Nat.le_of_succ_le hle)⟩, h.distinct⟩

/-- an initial cell becomes a root. -/
theorem ForestInv.addRoot (r : ρ) :
    ForestInv fin split sim
      { nodes := f.nodes ++ [{ result := r, parent := none, daughters := none }],
        queue := f.queue ++ [(fin r, f.nodes.length)], pos := f.pos } := by
  have hcases : ∀ {i : Nat} {nd : Node ρ},
      (f.nodes ++ [({ result := r, parent := none, daughters := none } : Node ρ)])[i]? = some nd →
      f.nodes[i]? = some nd ∨ nd = { result := r, parent := none, daughters := none } := by
    intro i nd hi
    rcases getElem?_append_cases hi with h0 | ⟨-, h0⟩
    exacts [Or.inl h0, Or.inr (List.mem_singleton.mp (List.mem_of_getElem? h0))]
  refine ⟨fun i nd p hi hp => ?_, fun p pn a b hp hd => ?_, fun i nd p hi hp => ?_, fun j cs sid hj => ?_, ?_⟩
  · rcases hcases hi with h0 | rfl
    · obtain ⟨pn, a, b, hpn, hd, hab⟩ := h.up i nd p h0 hp
      exact ⟨pn, a, b, getElem?_append_of_eq_some hpn _, hd, hab⟩
    · cases hp
  · rcases hcases hp with h0 | rfl
    · obtain ⟨hab, na, nb, hna, hnb, hpa, hpb⟩ := h.down p pn a b h0 hd
      exact ⟨hab, na, nb, getElem?_append_of_eq_some hna _, getElem?_append_of_eq_some hnb _, hpa, hpb⟩
    · cases hd
  · rcases hcases hi with h0 | rfl
    · obtain ⟨pn, c, c', hpn, hor⟩ := h.born i nd p h0 hp
      exact ⟨pn, c, c', getElem?_append_of_eq_some hpn _, hor⟩
    · cases hp
  · rcases getElem?_append_cases hj with h0 | ⟨-, h0⟩
    · obtain ⟨nd, hnd, hcs, hd⟩ := h.queued j cs sid h0
      exact ⟨nd, getElem?_append_of_eq_some hnd _, hcs, hd⟩
    · cases List.mem_singleton.mp (List.mem_of_getElem? h0)
      exact ⟨_, List.getElem?_concat_length .., rfl, fun _ => rfl⟩
  · exact h.distinct_append (List.pairwise_singleton _ _) fun e he => (List.mem_singleton.mp he ▸ Nat.le_refl _)

/-- the cell at the head of the queue divides: its schnitz lists two new schnitzes as daughters, which hold
the results of simulating the two parts of a partition of its final state; those of the two that are kept are
queued. -/
theorem ForestInv.divide {cs : κ} {sid : Nat} (hq : f.queue[f.pos]? = some (cs, sid)) (c c1 c2 : γ)
    {kept : List (κ × Nat)}
    (hkept : kept.Sublist [(fin (sim cs (split cs c).1.1 c1).1.1, f.nodes.length),
      (fin (sim cs (split cs c).1.2 c2).1.1, f.nodes.length + 1)]) :
    ForestInv fin split sim
      { nodes := divideNodes f.nodes sid (sim cs (split cs c).1.1 c1).1.1 (sim cs (split cs c).1.2 c2).1.1,
        queue := f.queue ++ kept, pos := f.pos + 1 } := by
  obtain ⟨nds, hnds, hcs, hnone⟩ := h.queued f.pos cs sid hq
  replace hnone := hnone (Nat.le_refl _)
  have hmem : ∀ e ∈ kept, e = (_, f.nodes.length) ∨ e = (_, f.nodes.length + 1) :=
    fun e he => List.mem_pair.mp (hkept.subset he)
  refine ⟨fun i nd p hi hp => ?_, fun p pn a b hp hd => ?_, fun i nd p hi hp => ?_, fun j cs' sid' hj => ?_, ?_⟩
  · rcases divideNodes_cases hi with ⟨nd0, h0, rfl⟩ | ⟨rfl, rfl⟩ | ⟨rfl, rfl⟩
    · obtain ⟨pn, a, b, hpn, hd, hab⟩ := h.up i nd0 p h0 hp
      -- the mother is not the dividing cell, which had no daughters
      have hps : p ≠ sid := by
        rintro rfl
        rw [hnds] at hpn; cases hpn
        rw [hnone] at hd; cases hd
      exact ⟨_, a, b, divideNodes_old hpn, (if_neg hps).trans hd, hab⟩
    · cases hp
      exact ⟨_, _, _, divideNodes_old hnds, if_pos rfl, Or.inl rfl⟩
    · cases hp
      exact ⟨_, _, _, divideNodes_old hnds, if_pos rfl, Or.inr rfl⟩
  · rcases divideNodes_cases hp with ⟨nd0, h0, rfl⟩ | ⟨rfl, rfl⟩ | ⟨rfl, rfl⟩
    · by_cases hps : p = sid
      · cases (if_pos hps).symm.trans hd
        exact ⟨Nat.ne_of_lt (Nat.lt_succ_self _), _, _, divideNodes_fst, divideNodes_snd, hps ▸ rfl, hps ▸ rfl⟩
      · obtain ⟨hab, na, nb, hna, hnb, hpa, hpb⟩ := h.down p nd0 a b h0 ((if_neg hps).symm.trans hd)
        exact ⟨hab, _, _, divideNodes_old hna, divideNodes_old hnb, hpa, hpb⟩
    · cases hd
    · cases hd
  · rcases divideNodes_cases hi with ⟨nd0, h0, rfl⟩ | ⟨rfl, rfl⟩ | ⟨rfl, rfl⟩
    · obtain ⟨pn, cc, cc', hpn, hor⟩ := h.born i nd0 p h0 hp
      exact ⟨_, cc, cc', divideNodes_old hpn, hor⟩
    · cases hp
      exact ⟨_, c, c1, divideNodes_old hnds, Or.inl (hcs ▸ rfl)⟩
    · cases hp
      exact ⟨_, c, c2, divideNodes_old hnds, Or.inr (hcs ▸ rfl)⟩
  · rcases getElem?_append_cases hj with h0 | ⟨-, h0⟩
    · obtain ⟨nd, hnd, hcs', hd⟩ := h.queued j cs' sid' h0
      refine ⟨_, divideNodes_old hnd, hcs', fun hle => ?_⟩
      -- a later entry is another schnitz than the one at the head
      have hne : sid' ≠ sid := by
        rintro rfl
        have hlt : f.pos + 1 ≤ j := hle
        rw [h.queue_inj h0 hq] at hlt
        exact Nat.not_succ_le_self _ hlt
      exact (if_neg hne).trans (hd (Nat.le_of_succ_le hle))
    · rcases hmem _ (List.mem_of_getElem? h0) with e | e <;> cases e
      · exact ⟨_, divideNodes_fst, rfl, fun _ => rfl⟩
      · exact ⟨_, divideNodes_snd, rfl, fun _ => rfl⟩
  · refine h.distinct_append ((hkept.map _).nodup ?_) fun e he => ?_
    · exact List.nodup_cons.mpr ⟨by simp, List.pairwise_singleton _ _⟩
    · rcases hmem e he with rfl | rfl
      exacts [Nat.le_refl _, Nat.le_succ _]

end

/-- **one turn of the work list keeps the lineage consistent** (any fate function, splitter, cell simulator). -/
theorem forestStep_inv (fate : κ → Fate) (hfin : ∀ cs d c, (sim cs d c).1.2.1 = fin (sim cs d c).1.1)
    {f' : Forest κ ρ} {c c' : γ} (h : ForestInv fin split sim f)
    (hstep : forestStep fate split sim f c = some (f', c')) : ForestInv fin split sim f' := by
  unfold forestStep at hstep
  split at hstep
  · cases hstep
  next cs sid hq =>
    split at hstep <;> cases hstep
    · simp only [hfin]
      exact h.divide hq c _ _ ((ite_singleton_sublist _ _).append (ite_singleton_sublist _ _))
    · exact h.skip

theorem forestInit_inv (sim0 : κ → γ → (ρ × κ) × γ) (hfin0 : ∀ v c, (sim0 v c).1.2 = fin (sim0 v c).1.1)
    (cells : List κ) (c : γ) : ForestInv fin split sim (forestInit sim0 cells c).1 := by
  unfold forestInit
  have hempty : ForestInv fin split sim ({ nodes := [], queue := [], pos := 0 } : Forest κ ρ) :=
    ⟨nofun, nofun, nofun, nofun, List.nodup_nil⟩
  generalize hacc : (({ nodes := [], queue := [], pos := 0 }, c) : Forest κ ρ × γ) = acc
  have h0 : ForestInv fin split sim acc.1 ∧ acc.1.pos = 0 := hacc ▸ ⟨hempty, rfl⟩
  clear hacc
  induction cells generalizing acc with
  | nil => exact h0.1
  | cons v rest ih =>
    rw [List.foldl_cons]
    refine ih _ ⟨?_, rfl⟩
    have := h0.1.addRoot (sim0 v acc.2).1.1
    rwa [← hfin0, h0.2] at this

end Preservation

/-- **lineage records are consistent** (`SimulateCellLineage` over any cell simulator and splitter that
return their final cell state, any initial cells, any number of turns): in the lineage that is returned,
every cell that names a mother is one of the two daughters that mother lists; the two daughters a mother lists
are different cells that both name her; and every daughter was simulated from one of the two parts of a
partition of her mother's final cell state. -/
theorem lineage_consistent (fin : ρ → κ) (fate : κ → Fate) (split : κ → γ → (κ × κ) × γ)
    (sim : κ → κ → γ → (ρ × κ × Bool) × γ) (sim0 : κ → γ → (ρ × κ) × γ)
    (hfin : ∀ cs d c, (sim cs d c).1.2.1 = fin (sim cs d c).1.1) (hfin0 : ∀ v c, (sim0 v c).1.2 = fin (sim0 v c).1.1)
    (cells : List κ) (c c' : γ) (fuel : Nat) (f : Forest κ ρ)
    (hrun : forestRun fate split sim fuel (forestInit sim0 cells c).1 (forestInit sim0 cells c).2 = some (f, c')) :
    ForestInv fin split sim f :=
  forestRun_induction fate split sim _ (fun _ _ _ _ h => forestStep_inv fate hfin h) fuel _ f _ c'
    (forestInit_inv sim0 hfin0 cells c) hrun

end Forest

/-! ### The concrete lineage simulator -/

section Concrete
variable {σ α : Type} [Field α] [LinearOrder α] [IsStrictOrderedRing α] [FloorRing α] [Transc α] [Trunc α]
  [C20.LawfulTrunc α]

/-- **`py_SimulateCellLineage` returns a consistent lineage**: `lineage_consistent` for the transcribed cell
simulator, splitters and final-cell-state function. -/
theorem simulateLineage_consistent (g : Gen σ α) (m : CellModel α) (eps8 eps12 : α)
    (ruleSplitters eventSplitters : List (Splitter α)) (times : List α) (cells : List (Cell α)) (p0 : List α)
    (fuel cellFuel : Nat) (gs : σ) (f : Forest (Cell α) (CellResult α)) (c : Thread σ α)
    (h : simulateLineage g m eps8 eps12 ruleSplitters eventSplitters times cells p0 fuel cellFuel gs = some (f, c)) :
    ForestInv CellResult.finalCell (splitCell g eps8 ruleSplitters eventSplitters)
      (simDaughter g m eps12 times cellFuel) f := by
  unfold simulateLineage at h
  exact lineage_consistent CellResult.finalCell _ _ _ (simOne g m times cellFuel)
    (fun cs d c => simOne_final g m _ cellFuel d c) (fun v c => simOne_final g m times cellFuel v c) cells _ c fuel f h

/-- **daughters are born at the mother's division time, from a partition of her state**: both cells made by
`interface.partition` carry the mother's time as their time and birth time, their share of the volume as
volume and birth volume, and their states satisfy `partitionLineage_spec` for the splitter of the rule or
event that fired. -/
theorem splitCell_birth (g : Gen σ α) (eps8 : α) (ruleSplitters eventSplitters : List (Splitter α)) (cs : Cell α)
    (c : Thread σ α) :
    let d := (splitCell g eps8 ruleSplitters eventSplitters cs c).1
    d.1.time = cs.time ∧ d.1.t0 = cs.time ∧ d.2.time = cs.time ∧ d.2.t0 = cs.time ∧
      d.1.v0 = d.1.vol ∧ d.2.v0 = d.2.vol ∧ d.1.divided = -1 ∧ d.1.dead = -1 ∧ d.2.divided = -1 ∧ d.2.dead = -1 ∧
      ∃ sp : Splitter α,
        d.1.state = (partitionLineage g sp.vs sp.noise eps8 sp.perfect sp.binomial cs.state cs.vol c.g).1.dState ∧
        d.2.state = (partitionLineage g sp.vs sp.noise eps8 sp.perfect sp.binomial cs.state cs.vol c.g).1.eState ∧
        d.1.vol = (partitionLineage g sp.vs sp.noise eps8 sp.perfect sp.binomial cs.state cs.vol c.g).1.dVol ∧
        d.2.vol = (partitionLineage g sp.vs sp.noise eps8 sp.perfect sp.binomial cs.state cs.vol c.g).1.eVol := by
  intro d
  exact ⟨rfl, rfl, rfl, rfl, rfl, rfl, rfl, rfl, rfl, rfl, _, rfl, rfl, rfl, rfl⟩

/-! #### A division uses the splitter of the rule or event that caused it -/

/-- the daughters `splitCell` makes with one given splitter. -/
def daughtersWith (g : Gen σ α) (eps8 : α) (sp : Splitter α) (cs : Cell α) (c : Thread σ α) : Daughters α :=
  (partitionLineage g sp.vs sp.noise eps8 sp.perfect sp.binomial cs.state cs.vol c.g).1

/-- a division flagged with the index of division rule `i` partitions with rule `i`'s splitter … -/
theorem splitCell_rule_splitter (g : Gen σ α) (eps8 : α) (ruleSplitters eventSplitters : List (Splitter α)) (cs : Cell α)
    (c : Thread σ α) (i : Nat) (hd : cs.divided = (i : Int)) (hi : i < ruleSplitters.length) :
    let d := (splitCell g eps8 ruleSplitters eventSplitters cs c).1
    let w := daughtersWith g eps8 (ruleSplitters.getD i ⟨.binomial, 0, [], []⟩) cs c
    d.1.state = w.dState ∧ d.2.state = w.eState ∧ d.1.vol = w.dVol ∧ d.2.vol = w.eVol := by
  intro d w
  simp only [d, w, splitCell, daughtersWith, hd, Int.toNat_natCast, hi, if_true, and_self]

/-- … and one flagged `number of division rules + e` partitions with the splitter of division event `e` (not with a rule's). -/
theorem splitCell_event_splitter (g : Gen σ α) (eps8 : α) (ruleSplitters eventSplitters : List (Splitter α)) (cs : Cell α)
    (c : Thread σ α) (e : Nat) (hd : cs.divided = ((ruleSplitters.length + e : Nat) : Int)) :
    let d := (splitCell g eps8 ruleSplitters eventSplitters cs c).1
    let w := daughtersWith g eps8 (eventSplitters.getD e ⟨.binomial, 0, [], []⟩) cs c
    d.1.state = w.dState ∧ d.2.state = w.eState ∧ d.1.vol = w.dVol ∧ d.2.vol = w.eVol := by
  intro d w
  have hn : ¬ (ruleSplitters.length + e < ruleSplitters.length) := by omega
  simp only [d, w, splitCell, daughtersWith, hd, Int.toNat_natCast, hn, if_false, Nat.add_sub_cancel_left, and_self]

/-- the single-cell loop flags a division caused by division event `e` (propensity index `reactions + volume events + e`) as
`number of division rules + e`: together with `splitCell_event_splitter`, the event's own splitter is used. -/
theorem cellEventStep_division_index (g : Gen σ α) (m : CellModel α) (a : List α) (Lambda : α) (b : CellLoop σ α)
    (c : Nat) (hc : (sampleDiscrete g a Lambda b.g).1 = (c : Int))
    (hlo : m.props.length + m.volEvents.length ≤ c) (hhi : c < m.props.length + m.volEvents.length + m.nDivEvents) :
    (cellEventStep g m a Lambda b).divided = ((m.divRules.length + (c - m.props.length - m.volEvents.length) : Nat) : Int)
      ∧ (cellEventStep g m a Lambda b).stop = true := by
  unfold cellEventStep
  have h1 : ¬ ((c : Int) < 0) := by omega
  have h2 : ¬ (c < m.props.length) := by omega
  have h3 : ¬ (c < m.props.length + m.volEvents.length) := by omega
  simp only [hc, h1, if_false, Int.toNat_natCast, h2, h3, hhi, if_true]
  constructor
  · congr 1; omega
  · trivial

end Concrete

/-! ### The pinned tree's final push, and non-vacuity -/

section Witness

/-- the final push as the pinned tree had it: only when the event fell before the next row's time. -/
def cellPushPinned {σ α : Type} [Zero α] [LT α] [DecidableLT α] (times : List α) (s : CellLoop σ α) : CellLoop σ α :=
  if s.t < times.getD s.idx 0 then { s with results := s.results.set s.idx (s.x, s.vol), idx := s.idx + 1 } else s

/-- the loop state of a cell that left the loop at its first rule check (division rule 0 held at birth). -/
def bornDividing : CellLoop Unit ℚ where
  x := [3]
  p := []
  vol := 2
  t := 0
  idx := 0
  nextQ := 1
  ruleStep := true
  results := [([0], 0), ([0], 0)]
  g := ()
  divided := 0
  dead := -1
  stop := true
  raised := false
  bad := false

/-- a cell whose division rule already holds when it is born at a grid time: the invariant holds, nothing has
been written, and the pinned push writes nothing either — the one row it reports (`current_index == 0`
keeps one row) is the zero the array was allocated with, volume `0` included.  `cellPush` writes it. -/
theorem pinned_reports_unwritten_row :
    ∃ (times : List ℚ) (s : CellLoop Unit ℚ), CellInv times.length s ∧ s.raised = false ∧ s.divided ≥ 0 ∧
      rowVol (cellPushPinned times s).results 0 = 0 ∧ 0 < rowVol (cellPush times s).results 0 := by
  refine ⟨[0, 1], bornDividing,
    ⟨rfl, fun _ => by simp [bornDividing], fun i hi => by simp [bornDividing] at hi, fun h => by simp [bornDividing] at h,
     fun _ => Or.inl (by simp [bornDividing])⟩, rfl, by simp [bornDividing], ?_, ?_⟩
  · simp [cellPushPinned, rowVol, bornDividing]
  · simp [cellPush, rowVol, bornDividing]

/-- the hypotheses of `partitionLineage_spec` and `partitionLineage_volume_pos` are met by an ordinary splitter
(species 0 and 2 perfect, species 1 binomial, noise 1/2) and an ordinary stream. -/
example : (([0, 2] : List Nat) ++ [1]).Nodup ∧ (0 : ℝ) ≤ 1 / 100000000 ∧ (0 : ℝ) < 3 / 2 ∧
    (0 : ℝ) ≤ 1 / 3 ∧ (0 : ℝ) ≤ 1 / 2 ∧ (1 / 3 : ℝ) * (1 / 2) < 1 := by
  refine ⟨by decide, by norm_num, by norm_num, by norm_num, by norm_num, by norm_num⟩

end Witness

end Bioscrape.C19
