import Mathlib.Algebra.Order.Archimedean.Real.Basic
import BioscrapeModel.Proofs.Queue

/-
C20 — the delay queue delivers each entry once, in order, at the nearest grid time.

Theorems about `Model/DelayQueue.lean` (the executable transcription of
`ArrayDelayQueue`), over any linearly ordered floor field, for histories of any length.
-/
set_option linter.unusedSectionVars false

namespace Bioscrape.C20

variable {α : Type} [Field α] [LinearOrder α] [IsStrictOrderedRing α] [FloorRing α] [Trunc α]

/-- the law of C's `(int) x` assumed of the number type: truncation toward zero. -/
class LawfulTrunc (α : Type) [Field α] [LinearOrder α] [IsStrictOrderedRing α] [FloorRing α] [Trunc α] : Prop where
  trunc_eq : ∀ x : α, Trunc.trunc x = if 0 ≤ x then ⌊x⌋ else ⌈x⌉

variable [LawfulTrunc α]

/-- requested time in units of slots after the next queue time. -/
def offset (q : DQ α) (t : α) : α := (t - q.next) / q.dt

/-- `(int) x` and `⌊x⌋` differ only below zero, where the clamp sends both to slot 0. -/
theorem max_zero_trunc (x : α) : max 0 (Trunc.trunc x) = max 0 ⌊x⌋ := by
  rw [LawfulTrunc.trunc_eq]
  split
  · rfl
  · next h =>
    have hx : x ≤ 0 := le_of_not_ge h
    rw [max_eq_left (Int.ceil_nonpos.mpr hx), max_eq_left (Int.floor_nonpos hx)]

/-- **slot of an insertion**: round-half-up of the offset, clamped to the queue:
the earliest pending slot if the time has already passed, the last slot beyond the horizon. -/
theorem slotOf_eq (q : DQ α) (t : α) (hn : 0 < q.numCols) :
    (q.slotOf t : Int) = max 0 (min ((q.numCols : Int) - 1) ⌊offset q t + 1 / 2⌋) := by
  rw [max_min_distrib_left, max_eq_right (by omega : (0 : Int) ≤ q.numCols - 1), ← max_zero_trunc]
  exact q.slotOf_clamp t hn

/-- inside the queue's range the slot is a nearest grid point: within half a step of the request. -/
theorem slot_nearest (q : DQ α) (t : α) (hn : 0 < q.numCols)
    (hlo : 0 ≤ offset q t + 1 / 2) (hhi : offset q t + 1 / 2 < (q.numCols : α)) :
    |offset q t - (q.slotOf t : α)| ≤ 1 / 2 := by
  have hf0 : 0 ≤ ⌊offset q t + 1 / 2⌋ := Int.floor_nonneg.mpr hlo
  have hf1 : ⌊offset q t + 1 / 2⌋ < (q.numCols : Int) := Int.floor_lt.mpr (by exact_mod_cast hhi)
  have hs : (q.slotOf t : Int) = round (offset q t) := by rw [slotOf_eq q t hn, round_eq]; omega
  rw [← Int.cast_natCast, hs]
  exact abs_sub_round _

/-- a requested time that has already passed goes to the earliest pending slot. -/
theorem slot_past (q : DQ α) (t : α) (hn : 0 < q.numCols) (h : offset q t + 1 / 2 < 1) :
    q.slotOf t = 0 := by
  have hs := slotOf_eq q t hn
  have : ⌊offset q t + 1 / 2⌋ < 1 := Int.floor_lt.mpr (by exact_mod_cast h)
  omega

/-- a requested time beyond the horizon goes to the last slot. -/
theorem slot_beyond (q : DQ α) (t : α) (hn : 0 < q.numCols)
    (h : ((q.numCols : α) - 1) ≤ offset q t + 1 / 2) : q.slotOf t = q.numCols - 1 := by
  have hs := slotOf_eq q t hn
  have : (q.numCols : Int) - 1 ≤ ⌊offset q t + 1 / 2⌋ := Int.le_floor.mpr (by push_cast; exact h)
  omega

/-! ### Histories: every insertion is delivered exactly once or still pending exactly once -/

inductive QOp (α : Type) where
  | add (t : α) (r : Nat) (a : α)
  | readAdvance

/-- a queue together with the ghost history the implementation does not keep. -/
structure Run (α : Type) where
  q : DQ α
  base : Nat                          -- number of read-and-advance steps so far
  assigned : List (Nat × Nat × α)     -- per insertion: absolute slot computed at insertion, reaction, amount
  delivered : List (List α)           -- what each read returned, in order

def step (s : Run α) : QOp α → Run α
  | .add t r a => { s with q := s.q.add t r a, assigned := s.assigned ++ [(s.base + s.q.slotOf t, r, a)] }
  | .readAdvance => { s with q := s.q.advance, base := s.base + 1,
                             delivered := s.delivered ++ [s.q.nextReactions] }

def run (init : DQ α) (ops : List (QOp α)) : Run α :=
  ops.foldl step { q := init, base := 0, assigned := [], delivered := [] }

/-- total amount of reaction `r` whose insertion was assigned the absolute slot `n`. -/
def added (log : List (Nat × Nat × α)) (n r : Nat) : α :=
  (log.map (fun e => if e.1 = n ∧ e.2.1 = r then e.2.2 else 0)).sum

theorem added_append (log : List (Nat × Nat × α)) (e : Nat × Nat × α) (n r : Nat) :
    added (log ++ [e]) n r = added log n r + if e.1 = n ∧ e.2.1 = r then e.2.2 else 0 := by
  simp [added]

/-- the queue's configuration is that of `init`; its clock, its pending amounts and the reads so far are what
the ghost history says: slot `base + j` is pending at logical slot `j`, slots before `base` have been read. -/
structure Inv (init : DQ α) (s : Run α) : Prop where
  cols : s.q.numCols = init.numCols
  rxns : s.q.numRxn = init.numRxn
  dt : s.q.dt = init.dt
  start : s.q.start < s.q.numCols
  next : s.q.next = init.next + (s.base : α) * init.dt
  pend : ∀ j r, j < s.q.numCols → s.q.pending j r = added s.assigned (s.base + j) r
  far : ∀ n r, s.base + s.q.numCols ≤ n → added s.assigned n r = 0
  deliv : s.delivered = (List.range s.base).map fun n => (List.range s.q.numRxn).map (added s.assigned n)

theorem inv_step {init : DQ α} {s : Run α} (h : Inv init s) (op : QOp α) : Inv init (step s op) := by
  have hn : 0 < s.q.numCols := Nat.zero_lt_of_lt h.start
  cases op with
  | add t r a =>
    have hsl := s.q.slotOf_lt t hn
    -- the new entry counts for its own absolute slot only, which is neither read yet nor beyond the horizon
    have hne (n r' : Nat) (hn : n ≠ s.base + s.q.slotOf t) :
        added (s.assigned ++ [(s.base + s.q.slotOf t, r, a)]) n r' = added s.assigned n r' := by
      rw [added_append, if_neg fun e => hn e.1.symm, add_zero]
    refine ⟨h.cols, h.rxns, h.dt, h.start, h.next, fun j r' hj => ?_,
      fun n r' (hfar : s.base + s.q.numCols ≤ n) => (hne n r' (by omega)).trans (h.far n r' hfar), ?_⟩
    · refine (s.q.pending_add t a r r' j hj).trans ?_
      show _ = added (s.assigned ++ [_]) (s.base + j) r'
      rw [h.pend j r' hj, added_append]
      exact congrArg _ (if_congr (and_congr (by omega) eq_comm) rfl rfl)
    · refine h.deliv.trans (List.map_congr_left fun n hn => List.map_congr_left fun r' _ => ?_)
      exact (hne n r' (by have := List.mem_range.mp hn; omega)).symm
  | readAdvance =>
    refine ⟨h.cols, h.rxns, h.dt, s.q.advance_start_lt hn, ?_, fun j r (hj : j < s.q.numCols) => ?_,
      fun n r (hfar : s.base + 1 + s.q.numCols ≤ n) => h.far n r (by omega), ?_⟩
    · show s.q.next + s.q.dt = init.next + ((s.base + 1 : Nat) : α) * init.dt
      rw [h.next, h.dt, Nat.cast_succ, add_mul, one_mul, add_assoc]
    · show s.q.advance.pending j r = added s.assigned (s.base + 1 + j) r
      rw [Nat.add_right_comm, Nat.add_assoc]
      by_cases hlast : j + 1 < s.q.numCols
      · rw [s.q.pending_advance j r h.start hlast, h.pend (j + 1) r hlast]
      · rw [show j = s.q.numCols - 1 by omega, s.q.pending_advance_last r h.start, h.far _ r (by omega)]
    · show s.delivered ++ [s.q.nextReactions]
        = (List.range (s.base + 1)).map fun n => (List.range s.q.numRxn).map (added s.assigned n)
      rw [List.range_succ, List.map_append, ← h.deliv, s.q.nextReactions_eq h.start]
      exact congrArg (fun f => s.delivered ++ [(List.range s.q.numRxn).map f]) (funext fun r => h.pend 0 r hn)

theorem inv_init (init : DQ α) (h0 : init.start < init.numCols) (hempty : ∀ c r, init.cells c r = 0) :
    Inv init { q := init, base := 0, assigned := [], delivered := [] } :=
  ⟨rfl, rfl, rfl, h0, by simp, fun j r _ => hempty _ r, fun _ _ _ => rfl, rfl⟩

/-- **exactly once**: after any history of insertions and read-and-advance steps on an initially
empty queue, for every reaction `r` and absolute slot `n` the total amount inserted for `(n, r)` —
each insertion counted at the one slot computed when it was made — has been delivered by the
`n`-th read and by no other (`n < base`), or is pending in exactly the cell of slot `n`
(`base ≤ n < base + numCols`), and nothing was inserted beyond the horizon.
Reads happen at `next₀, next₀ + dt, …` in increasing order. -/
theorem queue_exactly_once (init : DQ α) (ops : List (QOp α)) (h0 : init.start < init.numCols)
    (hempty : ∀ c r, init.cells c r = 0) :
    let s := run init ops
    (∀ n r, n < s.base → r < init.numRxn → (s.delivered.getD n []).getD r 0 = added s.assigned n r)
    ∧ (∀ j r, j < init.numCols → s.q.pending j r = added s.assigned (s.base + j) r)
    ∧ (∀ n r, s.base + init.numCols ≤ n → added s.assigned n r = 0)
    ∧ s.delivered.length = s.base
    ∧ s.q.next = init.next + (s.base : α) * init.dt := by
  intro s
  have h : Inv init s := List.foldlRecOn ops step (inv_init init h0 hempty) fun _ hb op _ => inv_step hb op
  refine ⟨fun n r hn hr => ?_, fun j r hj => h.pend j r (h.cols ▸ hj),
    fun n r hn => h.far n r (h.cols ▸ hn), by simp [h.deliv], h.next⟩
  simp [h.deliv, hn, h.rxns, hr]

/-! ### Totals: an insertion is never lost, a read-and-advance removes exactly what it returns -/

/-- total amount of reaction `r` waiting in the queue (all logical slots). -/
def totalPending (q : DQ α) (r : Nat) : α := ((List.range q.numCols).map (fun j => q.pending j r)).sum

/-- **no insertion is lost**: whatever the requested time — in the past, beyond the end of the queue (both clamped), or
in range — an insertion raises the total waiting amount of its reaction by exactly its amount and leaves every other
reaction's total alone. -/
theorem totalPending_add (q : DQ α) (t a : α) (r r' : Nat) (hs : q.start < q.numCols) :
    totalPending (q.add t r a) r' = totalPending q r' + if r' = r then a else 0 := by
  have hsl := q.slotOf_lt t (Nat.zero_lt_of_lt hs)
  have h1 : (List.range q.numCols).map (fun j => (q.add t r a).pending j r')
      = (List.range q.numCols).map fun j => q.pending j r' + if j = q.slotOf t then (if r' = r then a else 0) else 0 :=
    List.map_congr_left fun j hj => by rw [q.pending_add t a r r' j (List.mem_range.mp hj), ite_and]
  unfold totalPending
  rw [show (q.add t r a).numCols = q.numCols from rfl, h1, List.sum_map_add, sum_range_ite_eq, if_pos hsl]

/-- **a read-and-advance removes exactly what it returns**: the total waiting amount of a reaction after the step is the
total before minus the amount in the earliest slot (the amount the read delivered). -/
theorem totalPending_advance (q : DQ α) (r : Nat) (hs : q.start < q.numCols) :
    totalPending q.advance r + q.pending 0 r = totalPending q r := by
  obtain ⟨n, hn⟩ : ∃ n, q.numCols = n + 1 := ⟨q.numCols - 1, by omega⟩
  -- both totals are the sum over slots `1 … n` of `q`: on the left the vacated slot `n` adds `0`,
  -- on the right slot `0` is split off
  have hA : (List.range n).map (fun j => q.advance.pending j r) = (List.range n).map fun j => q.pending (j + 1) r :=
    List.map_congr_left fun j hj => q.pending_advance j r hs (by have := List.mem_range.mp hj; omega)
  have hlast : q.advance.pending n r = 0 := by
    have := q.pending_advance_last r hs
    rwa [hn] at this
  unfold totalPending
  rw [show q.advance.numCols = q.numCols from rfl, hn, List.sum_range_succ, hA, hlast, add_zero,
    List.sum_range_succ', add_comm]

/-! ### Copy and binomial partition -/

/-- **re-basing the clock keeps the queue's contents in place**: `set_current_time` (which every delay simulation calls
on the queue it is handed, so also on a queue carried over from an earlier run) changes the time base only — every
pending entry stays in the logical slot it was in, and the earliest slot is still the one delivered next. -/
theorem setCurrentTime_keeps_contents (q : DQ α) (t : α) (j r : Nat) :
    (q.setCurrentTime t).pending j r = q.pending j r ∧ (q.setCurrentTime t).start = q.start
      ∧ (q.setCurrentTime t).nextReactions = q.nextReactions ∧ (q.setCurrentTime t).next = t + q.dt :=
  ⟨rfl, rfl, rfl, rfl⟩

/-- … and a re-base to the time the queue is already at is the identity. -/
theorem setCurrentTime_same (q : DQ α) : q.setCurrentTime (q.next - q.dt) = q := by
  rw [DQ.setCurrentTime, sub_add_cancel]

theorem copy_preserves (q : DQ α) : q.copy = q := rfl

/-- whatever the random stream, the two parts of a binomial partition add up, cell by cell, to the
original queue, which is itself unchanged (it is not an output of the operation). -/
theorem partition_splits {σ : Type} (g : Gen σ α) (q : DQ α) (p : α) (s : σ) (j r : Nat)
    (hs : q.start < q.numCols) (hr : r < q.numRxn) :
    (q.partition g p s).1.1.pending j r + (q.partition g p s).1.2.pending j r = q.pending j r := by
  have hc : (q.start + j) % q.numCols < q.numCols := Nat.mod_lt _ (Nat.zero_lt_of_lt hs)
  simp only [DQ.partition, DQ.pending, hc, hr, and_self, if_true, add_sub_cancel]

/-! ### Non-vacuity: a 3-slot queue with wrap-around -/

noncomputable instance : Trunc ℝ := ⟨fun x => if 0 ≤ x then ⌊x⌋ else ⌈x⌉⟩
instance : LawfulTrunc ℝ := ⟨fun _ => rfl⟩

/-- the hypotheses of `queue_exactly_once` are met by every queue made by `setup_queue`
(here 2 reactions, 3 slots, `dt = 1/2`), for which the theorem therefore holds for all histories
(wrap-around of the ring included: histories are unbounded). -/
example (ops : List (QOp ℝ)) :
    let init : DQ ℝ := DQ.setup 2 3 (1 / 2)
    init.start < init.numCols ∧ (∀ c r, init.cells c r = 0) ∧
      (run init ops).delivered.length = (run init ops).base := by
  intro init
  have h0 : init.start < init.numCols := by simp [init, DQ.setup, DQ.new]
  have he : ∀ c r, init.cells c r = 0 := by simp [init, DQ.setup, DQ.new]
  exact ⟨h0, he, (queue_exactly_once init ops h0 he).2.2.2.1⟩

/-- non-vacuity of `totalPending_add`: on a fresh 3-slot queue an insertion far beyond the horizon (clamped to the last
slot) is still counted in full, and only for its own reaction. -/
example : totalPending ((DQ.setup 2 3 (1 / 2) : DQ ℝ).add 1000 1 5) 1 = 5
    ∧ totalPending ((DQ.setup 2 3 (1 / 2) : DQ ℝ).add 1000 1 5) 0 = 0 := by
  have h0 : (DQ.setup 2 3 (1 / 2) : DQ ℝ).start < (DQ.setup 2 3 (1 / 2) : DQ ℝ).numCols := by
    simp [DQ.setup, DQ.new]
  have hz : ∀ r, totalPending (DQ.setup 2 3 (1 / 2) : DQ ℝ) r = 0 := by
    intro r; simp [totalPending, DQ.pending, DQ.setup, DQ.new]
  constructor
  · rw [totalPending_add _ _ _ _ _ h0, hz]; simp
  · rw [totalPending_add _ _ _ _ _ h0, hz]; simp

end Bioscrape.C20
