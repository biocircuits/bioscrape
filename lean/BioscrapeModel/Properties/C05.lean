import BioscrapeModel.Proofs.Laws
import BioscrapeModel.Proofs.Sampling
import BioscrapeModel.Proofs.Loops

/-
C05 — stochastic simulation samples the chemical master equation exactly.

Path level (every uniform stream, hence every seed): one iteration of `SSASimulator.simulate`
is one step of the *restartable jump process* `jumpStep` — the definition of
"waiting times are exponential with rate the total propensity, the next reaction is chosen with
probability proportional to its propensity, and the state reported at a time point is the state
reached by the events that precede it".  Law level (over ℝ): the sets of uniforms that produce
a given waiting time / choice are the intervals whose lengths are the SSA one-step probabilities.
The composition of these one-step laws into the solution of the master equation is not formalised
(`ssa_exact_partial` names exactly what is proved).
-/
set_option linter.unusedSectionVars false

namespace Bioscrape.C05

section path
variable {σ α : Type} [Field α] [LinearOrder α] [IsStrictOrderedRing α] [Transc α] [Trunc α]

/-- arrival at the grid time `T` without firing: every grid time `≤ T` gets the current state,
the clock is set to `T`, the next iteration is a rule step. -/
def arrive (times : List α) (s : LoopState σ α) (x p : List α) (T : α) (g' : σ) : LoopState σ α :=
  let k := recordCount T (times.drop s.idx)
  { s with x := x, p := p, t := T, idx := s.idx + k, ruleStep := true, rows := s.rows ++ replicateRow k x, g := g' }

/-- the restartable jump process (specification; no flags). -/
def jumpStep (g : Gen σ α) (m : SimModel α) (times : List α) (s : LoopState σ α) : LoopState σ α :=
  let xp := applyRules m.rules s.x s.p 1 s.t m.dt s.ruleStep
  let a := m.propensities .stoch xp.1 xp.2 1 s.t
  let Lambda := arraySum a
  let T := times.getD s.idx 0
  if feq Lambda 0 then arrive times s xp.1 xp.2 T s.g            -- nothing can fire: go to the next stop
  else
    let ug := g s.g                                              -- E = -ln(u)/Λ
    let tau := s.t + (-1 / Lambda * Transc.log ug.1)
    if tau > T then arrive times s xp.1 xp.2 T ug.2              -- the stop comes first: no firing, redraw later
    else
      let k := recordCount tau (times.drop s.idx)                -- rows at grid times ≤ τ see the state *before* the event
      let rows := s.rows ++ replicateRow k xp.1
      if Lambda > 0 then
        let ug' := g ug.2
        let choice := sampleDiscreteFrom a (ug'.1 * Lambda)      -- j with c_{j-1} < u'Λ ≤ c_j
        if choice < 0 then
          { s with x := xp.1, p := xp.2, t := tau, idx := s.idx + k, ruleStep := false, rows := rows, g := ug'.2, bad := true }
        else
          { s with x := addCol xp.1 (addCol (colOf m.U choice.toNat) (colOf m.D choice.toNat)), p := xp.2, t := tau,
                   idx := s.idx + k, ruleStep := false, rows := rows, g := ug'.2 }
      else                                                       -- Λ < 0 (negative propensities): the clock moves, nothing fires, as in the code
        { s with x := xp.1, p := xp.2, t := tau, idx := s.idx + k, ruleStep := false, rows := rows, g := ug.2 }

/-- a loop state without its ghost log: exactly what the implementation holds. -/
def strip (s : LoopState σ α) : LoopState σ α := { s with log := [] }

/-- **refinement, one iteration**: for every uniform source, model, grid and loop state the SSA
loop body (with its `reaction_fired` / `rule_step` flags and the `Lambda == 0` special case)
computes exactly the jump-process step; the ghost log is the only thing the specification does not carry. -/
theorem ssaIter_refines_jumpStep (g : Gen σ α) (m : SimModel α) (times : List α) (s : LoopState σ α) :
    strip (ssaIter g m times s) = jumpStep g m times (strip s) := by
  unfold ssaIter
  conv_rhs => unfold jumpStep arrive; dsimp only [strip]
  -- name the rule pass, the propensities and the first draw, so that the case analysis works on small terms
  generalize applyRules m.rules s.x s.p 1 s.t m.dt s.ruleStep = xp
  obtain ⟨x, p⟩ := xp
  dsimp only
  generalize m.propensities .stoch x p 1 s.t = a
  generalize arraySum a = L
  generalize times.getD s.idx 0 = T
  generalize g s.g = ug
  obtain ⟨u, g1⟩ := ug
  dsimp only
  cases feq L 0
  · simp only [Bool.false_eq_true, ↓reduceIte]
    by_cases hT : s.t + -1 / L * Transc.log u > T
    · simp only [hT, ↓reduceIte, Bool.false_eq_true, and_false]; rfl
    · simp only [hT, ↓reduceIte, and_true, apply_ite strip]; rfl
  · simp only [↓reduceIte, lt_irrefl, Bool.false_eq_true, and_false]; rfl

/-- **refinement, whole runs**: for every uniform stream (every seed), network, initial state, grid
and fuel, running the SSA loop and running the jump-process specification give the same rows,
final state, clock and stream position. -/
theorem ssa_refines_jump (g : Gen σ α) (m : SimModel α) (times : List α) (fuel : Nat) (s : LoopState σ α) :
    (runLoop (ssaIter g m times) times.length fuel s).map strip
      = runLoop (jumpStep g m times) times.length fuel (strip s) :=
  runLoop_map _ _ _ strip (fun _ => ⟨rfl, rfl, rfl⟩) (ssaIter_refines_jumpStep g m times) fuel s

theorem ssa_run_spec {g : Gen σ α} {m : SimModel α} {times : List α} {fuel : Nat} {s s' : LoopState σ α}
    (h : runLoop (ssaIter g m times) times.length fuel s = some s') :
    runLoop (jumpStep g m times) times.length fuel (strip s) = some (strip s') := by
  rw [← ssa_refines_jump, h]; rfl

/-- **what one step of the jump process does**, field by field; `(g (g s.g).2).1` is the step's second uniform.  (The
proof takes the five branches of `jumpStep`: nothing can fire, the grid time comes first, `Λ < 0`, a sampling failure, a
firing.) -/
theorem jumpStep_outcome (g : Gen σ α) (m : SimModel α) (times : List α) (s : LoopState σ α) :
    let s' := jumpStep g m times s
    let xp := applyRules m.rules s.x s.p 1 s.t m.dt s.ruleStep
    let a := m.propensities .stoch xp.1 xp.2 1 s.t
    let j := sampleDiscreteFrom a ((g (g s.g).2).1 * arraySum a)
    Records times s s' xp.1 ∧ s'.p = xp.2 ∧ s'.stop = s.stop ∧ (s'.ruleStep = true → s'.t = times.getD s.idx 0)
      ∧ (s'.x = xp.1 ∨ (0 < arraySum a ∧ 0 ≤ j ∧
          s'.x = addCol xp.1 (addCol (colOf m.U j.toNat) (colOf m.D j.toNat)))) := by
  unfold Records jumpStep arrive
  -- keep the `let`s of the definition as local definitions, so that every term stays small
  extract_lets xp a L T k ug tau k' rows ug' choice s' j
  by_cases h1 : feq L 0 = true
  · rw [show s' = _ from if_pos h1]; exact ⟨⟨rfl, rfl⟩, rfl, rfl, fun _ => rfl, Or.inl rfl⟩
  rw [show s' = _ from if_neg h1]
  by_cases h2 : tau > T
  · rw [if_pos h2]; exact ⟨⟨rfl, rfl⟩, rfl, rfl, fun _ => rfl, Or.inl rfl⟩
  rw [if_neg h2]
  by_cases h3 : L > 0
  swap
  · rw [if_neg h3]; exact ⟨⟨rfl, rfl⟩, rfl, rfl, nofun, Or.inl rfl⟩
  rw [if_pos h3]
  by_cases h4 : choice < 0
  · rw [if_pos h4]; exact ⟨⟨rfl, rfl⟩, rfl, rfl, nofun, Or.inl rfl⟩
  · rw [if_neg h4]; exact ⟨⟨rfl, rfl⟩, rfl, rfl, nofun, Or.inr ⟨h3, not_lt.mp h4, rfl⟩⟩

/-- rows are written only by the recording step, with the state *before* the update; the number of
rows always equals the grid index. -/
theorem jumpStep_rows (g : Gen σ α) (m : SimModel α) (times : List α) (s : LoopState σ α)
    (h : s.rows.length = s.idx) : (jumpStep g m times s).rows.length = (jumpStep g m times s).idx :=
  (jumpStep_outcome g m times s).1.rows_length h

/-- the waiting time proposed from a uniform `u` is the inverse-CDF value `−ln(u)/Λ`. -/
theorem wait_is_invcdf (Lambda u : α) (hL : Lambda ≠ 0) :
    -1 / Lambda * Transc.log u = -(Transc.log u) / Lambda := by
  field_simp

end path

/-! ### Law level (real numbers) -/
section law

/-- **waiting time is Exp(Λ)**: the uniforms `u ∈ (0,1]` whose waiting time `−ln(u)/Λ` exceeds `s`
are exactly those below `exp(−Λ s)`; the set has length `exp(−Λ s)` = P(Exp(Λ) > s). -/
theorem exp_tail (Lambda s u : ℝ) (hL : 0 < Lambda) (hu : 0 < u) :
    s < -Real.log u / Lambda ↔ u < Real.exp (-Lambda * s) := by
  rw [lt_div_iff₀ hL, lt_neg, ← Real.log_exp (-(s * Lambda)), Real.log_lt_log_iff hu (Real.exp_pos _)]
  constructor <;> intro h <;> convert h using 2 <;> ring

/-- **memorylessness**: discarding a waiting time at a stop and redrawing does not change the law. -/
theorem memoryless (Lambda s r : ℝ) :
    Real.exp (-Lambda * (s + r)) = Real.exp (-Lambda * s) * Real.exp (-Lambda * r) := by
  rw [← Real.exp_add]; congr 1; ring

/-- **next reaction ∝ propensity**: with non-negative propensities summing to `Λ > 0`, the uniforms
`u ∈ (0,1]` that select reaction `j` form the interval `(c_j/Λ, c_{j+1}/Λ]`, of length `a_j/Λ`. -/
theorem choice_measure (a : List ℝ) (Lambda u : ℝ) (hpos : ∀ v ∈ a, 0 ≤ v) (hsum : a.sum = Lambda)
    (hL : 0 < Lambda) (hu0 : 0 < u) (hu1 : u ≤ 1) (j : Nat) (hj : j < a.length) :
    sampleDiscreteFrom a (u * Lambda) = (j : Int) ↔ cum a j / Lambda < u ∧ u ≤ cum a (j + 1) / Lambda := by
  have hq0 : 0 < u * Lambda := mul_pos hu0 hL
  have hq1 : u * Lambda ≤ a.sum := by rw [hsum]; nlinarith
  obtain ⟨k, hk, hsel, h1, h2⟩ := sampleDiscrete_interval a (u * Lambda) hpos hq0 hq1
  rw [div_lt_iff₀ hL, le_div_iff₀ hL]
  constructor
  · intro h
    have : (k : Int) = j := by rw [← hsel, h]
    have hkj : k = j := by exact_mod_cast this
    subst hkj; exact ⟨h1, h2⟩
  · intro h
    have := interval_unique a (u * Lambda) hpos k j ⟨h1, h2⟩ h
    subst this; exact hsel

theorem choice_interval_length (a : List ℝ) (Lambda : ℝ) (j : Nat) (hj : j < a.length) :
    cum a (j + 1) / Lambda - cum a j / Lambda = a[j] / Lambda := by
  rw [cum_succ a j hj]; ring

/-- **the choice probabilities add up to one**: the interval lengths `a_j/Λ` of `choice_measure` sum to 1, i.e. the
intervals `(c_j/Λ, c_{j+1}/Λ]` tile `(0, 1]` with nothing left over for "no reaction". -/
theorem choice_lengths_sum (a : List ℝ) (Lambda : ℝ) (hsum : a.sum = Lambda) (hL : Lambda ≠ 0) :
    (a.map (fun v => v / Lambda)).sum = 1 := by
  simp only [div_eq_mul_inv, List.sum_map_mul_right, List.map_id', hsum, mul_inv_cancel₀ hL]

/-- **every uniform selects a reaction of the model**: for `u ∈ (0, 1]` the index returned is a valid reaction index
(never the "none" sentinel −1, never past the end), so a step with `Λ > 0` always fires something. -/
theorem choice_total (a : List ℝ) (Lambda u : ℝ) (hpos : ∀ v ∈ a, 0 ≤ v) (hsum : a.sum = Lambda)
    (hL : 0 < Lambda) (hu0 : 0 < u) (hu1 : u ≤ 1) :
    ∃ j, j < a.length ∧ sampleDiscreteFrom a (u * Lambda) = (j : Int) ∧ 0 < a[j]! := by
  subst hsum
  obtain ⟨j, hj, hsel, hw⟩ := sampleDiscrete_pos a u hpos hL hu0 hu1
  exact ⟨j, hj, hsel, by rwa [getElem!_pos a j hj]⟩

/-- the two end points of the tiling: the first interval starts at 0 and the last ends at 1. -/
theorem choice_endpoints (a : List ℝ) (Lambda : ℝ) (hsum : a.sum = Lambda) (hL : Lambda ≠ 0) :
    cum a 0 / Lambda = 0 ∧ cum a a.length / Lambda = 1 := by
  constructor
  · simp [cum]
  · unfold cum; rw [List.take_length, hsum, div_self hL]

/-- **one-step rectangle**: the pairs `(u, u')` for which the next event is reaction `j` at a time in
`(t + lo, t + hi]` form the rectangle `[exp(−Λ hi), exp(−Λ lo)) × (c_j/Λ, c_{j+1}/Λ]`, whose area
`(e^{−Λ lo} − e^{−Λ hi}) · a_j/Λ` is the SSA one-step probability. -/
theorem one_step_rectangle (a : List ℝ) (Lambda lo hi u u' : ℝ) (hpos : ∀ v ∈ a, 0 ≤ v)
    (hsum : a.sum = Lambda) (hL : 0 < Lambda) (hu : 0 < u) (hu'0 : 0 < u') (hu'1 : u' ≤ 1)
    (j : Nat) (hj : j < a.length) :
    (lo < -Real.log u / Lambda ∧ ¬ hi < -Real.log u / Lambda ∧ sampleDiscreteFrom a (u' * Lambda) = (j : Int))
      ↔ (Real.exp (-Lambda * hi) ≤ u ∧ u < Real.exp (-Lambda * lo)
          ∧ cum a j / Lambda < u' ∧ u' ≤ cum a (j + 1) / Lambda) := by
  rw [exp_tail Lambda lo u hL hu, exp_tail Lambda hi u hL hu, choice_measure a Lambda u' hpos hsum hL hu'0 hu'1 j hj,
    not_lt]
  tauto

/-- What is proved about exactness, and what is not: the loop equals the jump-process specification
on every stream (`ssa_refines_jump`), and each step of that specification has the SSA one-step law
(`exp_tail`, `choice_measure`, `one_step_rectangle`, `memoryless`).  The composition of these
one-step kernels into the solution of the chemical master equation (a statement about
continuous-time Markov chains, not available in Mathlib) is **not** formalised. -/
theorem ssa_exact_partial (a : List ℝ) (Lambda : ℝ) (hpos : ∀ v ∈ a, 0 ≤ v) (hsum : a.sum = Lambda)
    (hL : 0 < Lambda) :
    (∀ s u, 0 < u → (s < -Real.log u / Lambda ↔ u < Real.exp (-Lambda * s)))
    ∧ (∀ u j, 0 < u → u ≤ 1 → j < a.length →
        (sampleDiscreteFrom a (u * Lambda) = (j : Int) ↔ cum a j / Lambda < u ∧ u ≤ cum a (j + 1) / Lambda)) :=
  ⟨fun s u hu => exp_tail Lambda s u hL hu,
   fun u j hu0 hu1 hj => choice_measure a Lambda u hpos hsum hL hu0 hu1 j hj⟩

/-! ### Non-vacuity -/
example : sampleDiscreteFrom [(1 : ℚ), 0, 3] (2 : ℚ) = 2 := by
  norm_num [sampleDiscreteFrom, sampleDiscreteFrom.go]
example : cum [(1 : ℚ), 0, 3] 2 < 2 ∧ (2 : ℚ) ≤ cum [(1 : ℚ), 0, 3] 3 := by
  norm_num [cum]

/-- the hypotheses of `choice_total` / `choice_lengths_sum` are met by a concrete propensity vector with a zero entry. -/
example : (∃ j : Nat, j < 3 ∧ sampleDiscreteFrom [(1 : ℝ), 0, 3] ((1 / 2 : ℝ) * 4) = (j : Int) ∧ 0 < [(1 : ℝ), 0, 3][j]!)
    ∧ ([(1 : ℝ), 0, 3].map (fun v => v / 4)).sum = 1 := by
  have hpos : ∀ v ∈ [(1 : ℝ), 0, 3], 0 ≤ v := by
    intro v hv
    simp only [List.mem_cons, List.not_mem_nil, or_false] at hv
    rcases hv with rfl | rfl | rfl <;> norm_num
  have hsum : [(1 : ℝ), 0, 3].sum = 4 := by norm_num
  exact ⟨choice_total _ 4 (1 / 2) hpos hsum (by norm_num) (by norm_num) (by norm_num),
    choice_lengths_sum _ 4 hsum (by norm_num)⟩

end law
end Bioscrape.C05
