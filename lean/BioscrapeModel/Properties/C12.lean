import BioscrapeModel.Proofs.Sbml

/-
C12 — writing a model to SBML and reading it back preserves its behaviour.

Proved here: the annotation text written for a reaction is read back as exactly the key/value pairs
that were written, whenever names are valid SBML identifiers (no space, `=`), and the comma-separated delayed
reactants / products inside a delay annotation are read back as the names written (`delay_list_roundtrip`); the stoichiometry written
(distinct species with coefficients) and expanded on reading has the same counts, hence the same
immediate and delayed stoichiometric columns (C03); rule kinds survive (C13).  libsbml's XML round trip
is the identity by assumption; rate-law agreement after re-import is C01 (annotated types are rebuilt
from type + parameter names) and C02 (general rates); the check compares all of it end to end.
-/

namespace Bioscrape.C12
open Bioscrape.Sbml

/-! ### `split` undoes `join` when no token contains the separator -/

/-- **`v.split(',')` undoes `','.join(names)`** for a non-empty list of names without commas. -/
theorem split_join (c : Char) (ws : List (List Char)) (h : ∀ w ∈ ws, c ∉ w) (hne : ws ≠ []) :
    splitOnChar c (joinWith c ws) = ws := by
  obtain ⟨w, ws, rfl⟩ := List.exists_cons_of_ne_nil hne
  rw [joinWith_cons]
  exact splitOnChar_append_flatMap c w ws (h w List.mem_cons_self) fun u hu => h u (List.mem_cons_of_mem _ hu)

/-- an empty list is written as the empty text and read back as the list holding one empty name (`''.split(',')` is
`['']`): the importer's reactions carry that empty name, which names no species. -/
theorem split_join_empty (c : Char) : splitOnChar c (joinWith c []) = [[]] := rfl

/-! ### Annotations -/

/-- identifier-safe tokens: neither keys nor values contain a space or `=`. -/
def ValidTokens (kvs : List (List Char × List Char)) : Prop :=
  ∀ kv ∈ kvs, ' ' ∉ kv.1 ∧ '=' ∉ kv.1 ∧ ' ' ∉ kv.2 ∧ '=' ∉ kv.2

theorem split_encode (kvs : List (List Char × List Char)) (h : ValidTokens kvs) :
    splitOnChar ' ' (encodeAnnotation kvs) = [] :: kvs.map (fun kv => kv.1 ++ '=' :: kv.2) := by
  rw [encodeAnnotation_eq_joinWith]
  refine split_join ' ' _ (fun tok htok => ?_) (List.cons_ne_nil _ _)
  rcases List.mem_cons.mp htok with rfl | htok
  · exact List.not_mem_nil
  · obtain ⟨kv, hkv, rfl⟩ := List.mem_map.mp htok
    rw [List.mem_append, List.mem_cons]
    exact fun hm => hm.elim (h kv hkv).1 fun hm => hm.elim (by decide) (h kv hkv).2.2.1

/-- **annotation round trip**: the key/value pairs read back from the text written for a reaction (type,
parameter names, species names; delay type, delayed reactants/products, delay parameters) are exactly the
pairs that were written, in order. -/
theorem annotation_roundtrip (kvs : List (List Char × List Char)) (h : ValidTokens kvs) :
    decodeAnnotation (encodeAnnotation kvs) = kvs := by
  rw [decodeAnnotation, split_encode kvs h]
  -- the empty first token holds no `=`; every token `k=v` splits at its one `=` into `[k, v]`
  simp only [List.filterMap_cons, List.not_mem_nil, if_false, List.filterMap_map]
  refine (List.filterMap_congr fun kv hkv => ?_).trans List.filterMap_some
  have hv := h kv hkv
  simp only [Function.comp, List.mem_append, List.mem_cons, true_or, or_true, if_true,
    splitOnChar_append_sep '=' kv.1 kv.2 hv.2.1, splitOnChar_of_not_mem '=' kv.2 hv.2.2.2]

/-- **two different annotations are never written as the same text**: the writer is injective on valid key/value lists
(otherwise a reader could not tell the two reactions apart). -/
theorem annotation_injective (kvs kvs' : List (List Char × List Char)) (h : ValidTokens kvs) (h' : ValidTokens kvs')
    (he : encodeAnnotation kvs = encodeAnnotation kvs') : kvs = kvs' := by
  have := congrArg decodeAnnotation he
  rwa [annotation_roundtrip kvs h, annotation_roundtrip kvs' h'] at this

/-- **writing again what was read gives the same text** (export ∘ import ∘ export = export at the annotation level): the
second-generation file does not drift from the first. -/
theorem annotation_reexport (kvs : List (List Char × List Char)) (h : ValidTokens kvs) :
    encodeAnnotation (decodeAnnotation (encodeAnnotation kvs)) = encodeAnnotation kvs := by
  rw [annotation_roundtrip kvs h]

/-! ### Comma-separated lists inside an annotation value (delayed reactants / products) -/

/-- **delayed reactants and products survive the annotation**: the pair `reactants=<names joined by commas>` written
into the delay annotation is read back (token split at `=`, value split at `,`) as the names that were written. -/
theorem delay_list_roundtrip (key : List Char) (names : List (List Char)) (hk : ' ' ∉ key ∧ '=' ∉ key)
    (hn : ∀ w ∈ names, ',' ∉ w ∧ ' ' ∉ w ∧ '=' ∉ w) (hne : names ≠ []) :
    (decodeAnnotation (encodeAnnotation [(key, joinWith ',' names)])).map (fun kv => (kv.1, splitOnChar ',' kv.2))
      = [(key, names)] := by
  have hvalid : ValidTokens [(key, joinWith ',' names)] := List.forall_mem_singleton.mpr
    ⟨hk.1, hk.2, not_mem_joinWith ',' ' ' names (fun w hw => (hn w hw).2.1) (by decide),
      not_mem_joinWith ',' '=' names (fun w hw => (hn w hw).2.2) (by decide)⟩
  rw [annotation_roundtrip _ hvalid, List.map_singleton, split_join ',' names (fun w hw => (hn w hw).1) hne]

example : splitOnChar ',' (joinWith ',' ["T".toList, "T".toList, "A".toList]) = ["T".toList, "T".toList, "A".toList] := by
  decide +kernel

/-! ### Stoichiometry written and read back -/

/-- **stoichiometry round trip**: writing the distinct species with their coefficients and expanding them again on
reading gives every species the multiplicity it had (`count_expand_dedupCount`); hence the immediate and the delayed
stoichiometric columns of the re-imported reaction equal the original ones, in every species order. -/
theorem stoich_roundtrip (idx R P : List String) :
    stoichColumn idx (expand (dedupCount R)) (expand (dedupCount P)) = stoichColumn idx R P :=
  stoichColumn_congr idx (count_expand_dedupCount R) (count_expand_dedupCount P)

/-- the stoichiometry read back, written and read again is still the original's (any number of generations is then an
induction on this step). -/
theorem stoich_roundtrip_twice (idx R P : List String) :
    stoichColumn idx (expand (dedupCount (expand (dedupCount R)))) (expand (dedupCount (expand (dedupCount P))))
      = stoichColumn idx R P := by
  rw [stoich_roundtrip, stoich_roundtrip]

/-! ### Non-vacuity -/
example : decodeAnnotation (encodeAnnotation [("type".toList, "massaction".toList), ("k".toList, "k1".toList)])
    = [("type".toList, "massaction".toList), ("k".toList, "k1".toList)] :=
  annotation_roundtrip _ (by unfold ValidTokens; decide +kernel)

end Bioscrape.C12
