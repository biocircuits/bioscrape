import BioscrapeModel.Proofs.Laws
import BioscrapeModel.Model.Deterministic
import BioscrapeModel.Properties.C03

/-
C04 — deterministic simulation solves the model's rate equations.

Proved: the right-hand side handed to the integrator is exactly the model's rate equations
`(S + S_d)·rate(x, t)` (delayed stoichiometry added as if the delay were zero); the retry ladder; a
failed integration is never reported as numbers; rows are re-ruled; and, *conditionally on the
integrator's accuracy contract*, the reported rows are within tolerance of the exact solution.
Also proved of that right-hand side, for every rate law: every linear conservation law of the stoichiometry
is a constant of the rate equations (`rhsGlobal_conserves`), a species no reaction changes has derivative
zero (`rhsGlobal_untouched`), a state where every rate vanishes is a rest point (`rhsGlobal_rest`); the
check measures the first on the implementation's output rows (drift of every conserved combination).
The contract itself (LSODA's accuracy) is assumed and sampled by the check (`det_accurate` is the
partial form of the property).
-/
set_option linter.unusedSectionVars false

namespace Bioscrape.C04

variable {α : Type} [Field α] [LinearOrder α] [IsStrictOrderedRing α] [Transc α] [Trunc α]

/-- with rules, the derivative is computed from the rule-updated state and parameters. -/
theorem rhsGlobal_rules (m : SimModel α) (x p : List α) (t : α) :
    (rhsGlobal m x p t).1
      = derivative m.nSpecies m.U m.D m.props
          (vecGet (applyRules m.rules x p 1 t m.dt (detRuleStep t m.dt)).1)
          (vecGet (applyRules m.rules x p 1 t m.dt (detRuleStep t m.dt)).2) t := rfl

/-- **the integrator is handed the model's rate equations**: without rules, `rhs_global(x, t)` is, for each
species, `Σ_r (S + S_d)[s, r] · rate_r(x, t)` — the delayed part of every reaction counted as if its delay
were zero. -/
theorem rhsGlobal_eq (m : SimModel α) (x p : List α) (t : α) (hr : m.rules = []) (s : Nat) (hs : s < m.nSpecies) :
    (rhsGlobal m x p t).1.getD s 0
      = C03.denseRow m.U m.D (m.props.map (fun q => q.det (vecGet x) (vecGet p) t)) s := by
  rw [rhsGlobal_rules, hr]
  exact C03.derivative_spec m.nSpecies m.U m.D m.props (vecGet x) (vecGet p) t s hs

/-! ### Linear conservation laws and inert reactions -/

/-- a weighted sum of dense rows, reaction by reaction: `Σ_s w_s · row_s = Σ_r (Σ_s w_s · (U + D)[s, r]) · rate_r`. -/
theorem sum_mul_denseRow (n : Nat) (U D : List (List Int)) (rates : List α) (w : Nat → α) :
    ∑ s ∈ Finset.range n, w s * C03.denseRow U D rates s
      = ∑ r ∈ Finset.range rates.length,
          (∑ s ∈ Finset.range n, w s * ((entry U s r + entry D s r : Int) : α)) * rates.getD r 0 := by
  -- a sum over `List.range` is by definition the sum over `Finset.range`
  have hrow : ∀ s, C03.denseRow U D rates s
      = ∑ r ∈ Finset.range rates.length, ((entry U s r + entry D s r : Int) : α) * rates.getD r 0 := fun _ => rfl
  simp only [hrow, Finset.mul_sum, Finset.sum_mul, mul_assoc]
  exact Finset.sum_comm

/-- **conservation laws of the rate equations**: a weighting `w` of the species that every reaction's net
change (immediate plus delayed) leaves untouched, `Σ_s w_s·(S + S_d)[s, r] = 0` for every reaction, is left
untouched by the right-hand side handed to the integrator, whatever the rate laws are:
`Σ_s w_s · rhs_s(x, t) = 0` at every state and time (total mass of a closed conversion chain, total
enzyme, ...). -/
theorem rhsGlobal_conserves (m : SimModel α) (x p : List α) (t : α) (hr : m.rules = []) (w : Nat → α)
    (hw : ∀ r, r < m.props.length →
      ∑ s ∈ Finset.range m.nSpecies, w s * ((entry m.U s r + entry m.D s r : Int) : α) = 0) :
    ∑ s ∈ Finset.range m.nSpecies, w s * (rhsGlobal m x p t).1.getD s 0 = 0 := by
  rw [Finset.sum_congr rfl fun s hs => by rw [rhsGlobal_eq m x p t hr s (Finset.mem_range.mp hs)],
    sum_mul_denseRow, List.length_map]
  exact Finset.sum_eq_zero fun r hr' => by rw [hw r (Finset.mem_range.mp hr'), zero_mul]

/-- the hypothesis of `rhsGlobal_conserves` is met by a real network: in `A -> B`, `B -> A` the weighting
(1, 1) is conserved. -/
example (r : Nat) (hr : r < 2) :
    ∑ s ∈ Finset.range 2, (fun _ => (1 : α)) s * ((entry [[-1, 1], [1, -1]] s r + entry [[0, 0], [0, 0]] s r : Int) : α) = 0 := by
  -- each column of the integer matrix sums to zero
  have hcol : ∀ r < 2, ∑ s ∈ Finset.range 2, (entry [[-1, 1], [1, -1]] s r + entry [[0, 0], [0, 0]] s r) = 0 := by
    decide
  simp only [one_mul, ← Int.cast_sum, hcol r hr, Int.cast_zero]

/-- **a species no reaction changes stays put**: if every reaction's net change of species `s` is zero, its
derivative is zero at every state and time. -/
theorem rhsGlobal_untouched (m : SimModel α) (x p : List α) (t : α) (hr : m.rules = []) (s : Nat) (hs : s < m.nSpecies)
    (h0 : ∀ r, entry m.U s r + entry m.D s r = 0) : (rhsGlobal m x p t).1.getD s 0 = 0 := by
  rw [rhsGlobal_eq m x p t hr s hs]
  exact C03.denseRow_eq_zero _ _ _ s fun r => Or.inl (h0 r)

/-- **rest points**: where every rate vanishes the right-hand side vanishes (an empty system stays empty, a
state at which nothing can react is a fixed point of the rate equations). -/
theorem rhsGlobal_rest (m : SimModel α) (x p : List α) (t : α) (hr : m.rules = []) (s : Nat) (hs : s < m.nSpecies)
    (h0 : ∀ q ∈ m.props, q.det (vecGet x) (vecGet p) t = 0) : (rhsGlobal m x p t).1.getD s 0 = 0 := by
  rw [rhsGlobal_eq m x p t hr s hs]
  exact C03.denseRow_eq_zero _ _ _ s fun r => Or.inr (getD_of_forall (P := (· = 0)) _ r rfl (List.forall_mem_map.mpr h0))

/-- the default ladder of `mxstep` values. -/
theorem ladder_default : mxstepLadder 500000 10 500 = [500, 5000, 50000, 500000] := by decide

/-- a user-given cap that is not a power-of-ten multiple is the last value tried. -/
example : mxstepLadder 20000 10 500 = [500, 5000, 20000] := by decide

/-- (Tie to the code: the implementation keeps `steps_allowed` in a C `unsigned`; for caps up to `(2^32 − 1) / 10` the
product `· 10` cannot wrap and the check compares the values the real loop tries with `mxstepLadder` for such caps.
Larger caps are outside the modelled range — the 32-bit product wraps there, see DESIGN.md.)

**the retry ladder, for every cap**: every value tried lies between the starting value and the cap (or is the starting
value itself when the cap is below it) — no attempt ever exceeds the user's `max_step`. -/
theorem ladder_bounds (maxStep : Nat) : ∀ (fuel cur : Nat),
    ∀ k ∈ mxstepLadder maxStep fuel cur, cur ≤ k ∧ k ≤ max cur maxStep := by
  intro fuel
  induction fuel with
  | zero => intro cur k hk; cases hk
  | succ fuel ih =>
    intro cur k hk
    rw [mxstepLadder] at hk
    split at hk
    · rw [List.mem_singleton.mp hk]; exact ⟨le_refl _, le_max_left _ _⟩
    · next hlt =>
      rcases List.mem_cons.mp hk with rfl | hk
      · exact ⟨le_refl _, le_max_left _ _⟩
      · -- the next rung lies between `cur` and the cap, and so does everything after it
        obtain ⟨h1, h2⟩ := ih _ k hk
        have hmin : cur ≤ min (cur * 10) maxStep := le_min (Nat.le_mul_of_pos_right _ (by decide)) (le_of_not_ge hlt)
        rw [max_eq_right (min_le_right _ _)] at h2
        exact ⟨hmin.trans h1, h2.trans (le_max_right _ _)⟩

/-- at least one attempt is made, the first one with the starting `mxstep`. -/
theorem ladder_head (maxStep fuel cur : Nat) : (mxstepLadder maxStep (fuel + 1) cur).head? = some cur := by
  rw [mxstepLadder]; split <;> rfl

/-- with a positive starting value the values strictly increase from one attempt to the next, so no `mxstep` is tried
twice. -/
theorem ladder_increasing (maxStep : Nat) : ∀ (fuel cur : Nat), 0 < cur →
    (mxstepLadder maxStep fuel cur).Pairwise (· < ·) := by
  intro fuel
  induction fuel with
  | zero => intro cur _; exact List.Pairwise.nil
  | succ fuel ih =>
    intro cur hc
    rw [mxstepLadder]
    split
    · exact List.pairwise_singleton _ _
    · next hlt =>
      have hnext : cur < min (cur * 10) maxStep := lt_min (by omega) (lt_of_not_ge hlt)
      exact List.pairwise_cons.mpr
        ⟨fun k hk => hnext.trans_le (ladder_bounds maxStep fuel _ k hk).1, ih _ (hc.trans hnext)⟩

/-- non-vacuity: a user cap that is not a rung (20000) — increasing, never above the cap, first attempt 500. -/
example : (mxstepLadder 20000 10 500).Pairwise (· < ·) ∧ (∀ k ∈ mxstepLadder 20000 10 500, k ≤ 20000)
    ∧ (mxstepLadder 20000 10 500).head? = some 500 := by
  refine ⟨ladder_increasing 20000 10 500 (by decide), ?_, ladder_head 20000 9 500⟩
  intro k hk
  have := (ladder_bounds 20000 10 500 k hk).2
  omega

variable {Rows : Type}

/-- `detSimulate` returns the first successful attempt of the ladder, re-ruled when the model has rules. -/
theorem detSimulate_eq_map (solve : Nat → Option Rows) (rerule : Rows → Rows) (hasRules : Bool) (ladder : List Nat) :
    detSimulate solve rerule hasRules ladder
      = (ladder.findSome? solve).map fun rows => if hasRules then rerule rows else rows := by
  unfold detSimulate
  cases ladder.findSome? solve <;> rfl

/-- **a failed integration is never reported as numbers.** -/
theorem det_failure_is_nan (solve : Nat → Option Rows) (rerule : Rows → Rows) (hasRules : Bool) (ladder : List Nat)
    (h : ∀ k ∈ ladder, solve k = none) : detSimulate solve rerule hasRules ladder = none := by
  rw [detSimulate_eq_map, List.findSome?_eq_none_iff.mpr h, Option.map_none]

/-- the result is the first successful attempt, with the rules re-applied when the model has rules. -/
theorem det_success (solve : Nat → Option Rows) (rerule : Rows → Rows) (hasRules : Bool) (pre post : List Nat)
    (k : Nat) (rows : Rows) (hpre : ∀ k' ∈ pre, solve k' = none) (hk : solve k = some rows) :
    detSimulate solve rerule hasRules (pre ++ k :: post) = some (if hasRules then rerule rows else rows) := by
  rw [detSimulate_eq_map, List.findSome?_append, List.findSome?_eq_none_iff.mpr hpre, Option.none_or,
    List.findSome?_cons, hk, Option.map_some]

/-- accuracy contract assumed of the integrator: every successful attempt returns, at each requested time,
a state within `ε` of the exact solution `φ` through the initial condition. -/
def SolverAccurate (ε : α) (dist : Rows → Nat → α) (solve : Nat → Option Rows) : Prop :=
  ∀ k rows, solve k = some rows → ∀ i, dist rows i ≤ ε

/-- **conditional accuracy** (`det_accurate`, the partial form of the property): if the integrator meets its
contract, every row of a reported result (no rules) is within `ε` of the exact solution of
`x' = (S + S_d)·rate(x, t)` at the corresponding requested time. -/
theorem det_accurate (ε : α) (dist : Rows → Nat → α) (solve : Nat → Option Rows) (rerule : Rows → Rows)
    (ladder : List Nat) (hacc : SolverAccurate ε dist solve) (rows : Rows)
    (h : detSimulate solve rerule false ladder = some rows) : ∀ i, dist rows i ≤ ε := by
  rw [detSimulate_eq_map] at h
  obtain ⟨r, hf, rfl⟩ := Option.map_eq_some_iff.mp h
  obtain ⟨k, _, hk⟩ := List.exists_of_findSome?_eq_some hf
  exact hacc k r hk

end Bioscrape.C04
