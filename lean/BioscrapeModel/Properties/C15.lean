import BioscrapeModel.Proofs.Priors
import BioscrapeModel.Proofs.Inference

/-
C15 — the inference cost is the stated posterior on correctly aligned data.
-/
set_option linter.unusedSectionVars false

namespace Bioscrape.C15

/-! ### Data alignment -/

/-- **data are matched to species by column name and to time by row**: entry `[t][m]` of the array handed
to the likelihood is row `t` of the column named by measurement `m`, for any number of measurements and
time points and whatever the order or number of the frame's columns. -/
theorem data_aligned {β : Type} [Inhabited β] (f : Frame β) (ms : List String) (T t m : Nat)
    (hcols : ∀ name ∈ ms, (f.col name).length = T) (ht : t < T) (hm : m < ms.length) :
    ((extractFrame f ms T).getD t []).getD m default = (f.col (ms[m])).getD t default := by
  rw [extractFrame_getD f ms T t m ht hm, reshapeGet_transposeFlat _ _ _ _ _ ht hm,
    flatten2_getD _ T m t default (List.forall_mem_map.mpr hcols) ht,
    List.getD_eq_getElem (ms.map f.col) [] (by simpa using hm), List.getElem_map]

/-- what the pinned tree did: reshaping the `(M, T)` array to `(T, M)` without transposing is *not*
aligned — witness with two species and two time points. -/
theorem reshape_only_misaligned :
    (extractFrameReshapeOnly [("A", [1, 2]), ("B", [10, 20])] ["A", "B"] 2 : List (List Nat))
      ≠ [[1, 10], [2, 20]] := by decide

example : (extractFrame [("time", [0, 5]), ("B", [10, 20]), ("A", [1, 2])] ["A", "B"] 2 : List (List Nat))
    = [[1, 10], [2, 20]] := by decide

/-! ### The cost is a function of θ alone -/

section cost
variable {α : Type} [Field α] [LinearOrder α] [IsStrictOrderedRing α] [Transc α]

/-- the last value written for index `i` by a dictionary, if any. -/
def lookupLast (d : List (Nat × α)) (i : Nat) : Option α :=
  d.foldl (fun acc kv => if kv.1 = i then some kv.2 else acc) none

theorem lookupLast_concat (d : List (Nat × α)) (kv : Nat × α) (i : Nat) :
    lookupLast (d ++ [kv]) i = if kv.1 = i then some kv.2 else lookupLast d i := by
  simp [lookupLast]

/-- after `set_params(d)` every entry holds the last value `d` wrote to it, or what it held before. -/
theorem applyDict_getElem? (c : List α) (d : List (Nat × α)) (i : Nat) :
    (applyDict c d)[i]? = c[i]?.map fun x => (lookupLast d i).getD x := by
  induction d using List.reverseRecOn with
  | nil => simp [applyDict, lookupLast]
  | append_singleton d kv ih =>
    rw [applyDict_concat, List.getElem?_set', lookupLast_concat, ih]
    split
    · rw [Option.map_eq_map, Option.map_map]; rfl
    · rfl

/-- **history freeness**: when the defaults captured at construction cover every parameter, the parameter
vector an evaluation works with is determined by the defaults and θ — whatever earlier evaluations (or
parameter conditions) left in the shared array. -/
theorem base_independent_of_history (c1 c2 : List α) (defaults thetaKV : List (Nat × α))
    (hlen : c1.length = c2.length) (hcover : ∀ i < c1.length, (lookupLast defaults i).isSome) :
    applyDict (applyDict c1 defaults) thetaKV = applyDict (applyDict c2 defaults) thetaKV := by
  congr 1
  apply List.ext_getElem?
  intro i
  rw [applyDict_getElem?, applyDict_getElem?]
  by_cases hi : i < c1.length
  · obtain ⟨v, hv⟩ := Option.isSome_iff_exists.mp (hcover i hi)
    simp [hv, hi, hlen ▸ hi]
  · rw [List.getElem?_eq_none (not_lt.mp hi), List.getElem?_eq_none (hlen ▸ not_lt.mp hi)]

/-- hence the value returned for θ is the same after any history of evaluations. -/
theorem cost_history_free (sim : List α → List α → List α → List (List α)) (pi norm : α) (measIdx : List Nat)
    (defaults : List (Nat × α)) (priors : List (PriorSpec α × Bool)) (thetaIdx : List Nat) (trajs : List (Traj α))
    (c1 c2 theta : List α) (hlen : c1.length = c2.length) (hcover : ∀ i < c1.length, (lookupLast defaults i).isSome) :
    cost sim pi norm measIdx defaults priors thetaIdx trajs c1 theta
      = cost sim pi norm measIdx defaults priors thetaIdx trajs c2 theta := by
  unfold cost
  rw [base_independent_of_history c1 c2 defaults (thetaIdx.zip theta) hlen hcover]

/-- outside the prior's support the value is −∞ (`none`), whatever the data. -/
theorem cost_outside_support (sim : List α → List α → List α → List (List α)) (pi norm : α) (measIdx : List Nat)
    (defaults : List (Nat × α)) (priors : List (PriorSpec α × Bool)) (thetaIdx : List Nat) (trajs : List (Traj α))
    (c theta : List α) (h : checkPrior pi ((priors.zip theta).map (fun pt => (pt.1.1, pt.1.2, pt.2))) = none) :
    cost sim pi norm measIdx defaults priors thetaIdx trajs c theta = none := by
  unfold cost; rw [h]

/-! ### The cost is the stated formula, symmetric in trajectories and measurements -/

/-- error of one trajectory on its own (initial condition, parameter condition, time points, data). -/
def trajTerm (sim : List α → List α → List α → List (List α)) (norm : α) (measIdx : List Nat)
    (base : List α) (tr : Traj α) : α :=
  trajError norm measIdx (sim (applyDict base tr.cond) tr.x0 tr.times) tr.data tr.times.length 0

/-- **the cost formula**: `−(Σ_n Σ_m Σ_t |data − sim_n|^p)^(1/p)`, with `sim_n` started from trajectory `n`'s
own initial condition, the evaluation's parameters overridden by trajectory `n`'s own parameter condition
(and by nothing else), at its own time points. -/
theorem logLikelihood_formula (sim : List α → List α → List α → List (List α)) (norm : α) (measIdx : List Nat)
    (base : List α) (trajs : List (Traj α)) :
    logLikelihood sim norm measIdx base trajs
      = -(Transc.pow ((trajs.map (trajTerm sim norm measIdx base)).sum) (1 / norm)) := by
  have step (acc : α) (tr : Traj α) : trajError norm measIdx (sim (applyDict base tr.cond) tr.x0 tr.times) tr.data
      tr.times.length acc = acc + trajTerm sim norm measIdx base tr := trajError_acc ..
  simp only [logLikelihood, step, foldl_add_eq_add_sum, zero_add]

/-- **the order of the trajectories does not matter.** -/
theorem cost_perm_trajectories (sim : List α → List α → List α → List (List α)) (norm : α) (measIdx : List Nat)
    (base : List α) (trajs trajs' : List (Traj α)) (h : trajs.Perm trajs') :
    logLikelihood sim norm measIdx base trajs = logLikelihood sim norm measIdx base trajs' := by
  rw [logLikelihood_formula, logLikelihood_formula, (h.map _).sum_eq]

/-- one trajectory's error as a sum over (species index, data column) pairs. -/
def colsErr (norm : α) (rows : List (List α)) (cols : List (Nat × List α)) : α :=
  (cols.map (fun c => ((List.range c.2.length).map (fun t =>
      Transc.pow (|c.2.getD t 0 - (rows.getD t []).getD c.1 0|) norm)).sum)).sum

/-- **the order in which the measured species are listed does not matter**: the error is a sum over the
(species, data column) pairs. -/
theorem cost_perm_measurements (norm : α) (rows : List (List α)) (cols cols' : List (Nat × List α))
    (h : cols.Perm cols') : colsErr norm rows cols = colsErr norm rows cols' := by
  unfold colsErr
  exact (h.map _).sum_eq

end cost

/-! ### The cost composes from the single-trajectory costs (over ℝ) -/
section composition

theorem trajTerm_nonneg (sim : List ℝ → List ℝ → List ℝ → List (List ℝ)) (p : ℝ) (measIdx : List Nat)
    (base : List ℝ) (tr : Traj ℝ) : 0 ≤ trajTerm sim p measIdx base tr := by
  rw [trajTerm, trajError_eq, zero_add]
  exact List.sum_nonneg (List.forall_mem_map.mpr fun i _ =>
    List.sum_nonneg (List.forall_mem_map.mpr fun t _ => Real.rpow_nonneg (abs_nonneg _) p))

theorem terms_sum_nonneg (sim : List ℝ → List ℝ → List ℝ → List (List ℝ)) (p : ℝ) (measIdx : List Nat)
    (base : List ℝ) (trajs : List (Traj ℝ)) : 0 ≤ (trajs.map (trajTerm sim p measIdx base)).sum :=
  List.sum_nonneg (List.forall_mem_map.mpr fun tr _ => trajTerm_nonneg sim p measIdx base tr)

/-- for a norm order `p > 0` the `p`-th power of minus the log-likelihood is the total error `Σ_n Σ_m Σ_t |data − sim_n|^p`. -/
theorem neg_logLikelihood_rpow (sim : List ℝ → List ℝ → List ℝ → List (List ℝ)) (p : ℝ) (hp : 0 < p) (measIdx : List Nat)
    (base : List ℝ) (trajs : List (Traj ℝ)) :
    Transc.pow (-(logLikelihood sim p measIdx base trajs)) p = (trajs.map (trajTerm sim p measIdx base)).sum := by
  rw [logLikelihood_formula, neg_neg, Transc.pow_real, Transc.pow_real, one_div]
  exact Real.rpow_inv_rpow (terms_sum_nonneg sim p measIdx base trajs) hp.ne'

/-- **the error of a data set is the sum of the errors of its trajectories taken alone**: for a norm order `p > 0`,
`(−LL(trajectories))^p = Σ_n (−LL([trajectory n]))^p`, every trajectory being simulated from the same evaluation
parameters `base` (plus its own condition).  This is the form of the statement the harness checks on models for which no
independent reference trajectory exists. -/
theorem logLikelihood_composes (sim : List ℝ → List ℝ → List ℝ → List (List ℝ)) (p : ℝ) (hp : 0 < p) (measIdx : List Nat)
    (base : List ℝ) (trajs : List (Traj ℝ)) :
    Transc.pow (-(logLikelihood sim p measIdx base trajs)) p
      = (trajs.map (fun tr => Transc.pow (-(logLikelihood sim p measIdx base [tr])) p)).sum := by
  rw [neg_logLikelihood_rpow sim p hp]
  congr 1
  exact List.map_congr_left fun tr _ => by
    rw [neg_logLikelihood_rpow sim p hp, List.map_singleton, List.sum_singleton]

/-- **the log-likelihood is never positive** (it is minus a norm of the residuals). -/
theorem logLikelihood_nonpos (sim : List ℝ → List ℝ → List ℝ → List (List ℝ)) (p : ℝ) (measIdx : List Nat)
    (base : List ℝ) (trajs : List (Traj ℝ)) : logLikelihood sim p measIdx base trajs ≤ 0 := by
  rw [logLikelihood_formula]
  exact neg_nonpos.mpr (Real.rpow_nonneg (terms_sum_nonneg sim p measIdx base trajs) _)

/-- **more data can only lower it**: adding a trajectory to the data set never raises the log-likelihood (norm order
`p > 0`), whatever the simulator returns for it. -/
theorem logLikelihood_antitone (sim : List ℝ → List ℝ → List ℝ → List (List ℝ)) (p : ℝ) (hp : 0 < p) (measIdx : List Nat)
    (base : List ℝ) (tr : Traj ℝ) (trajs : List (Traj ℝ)) :
    logLikelihood sim p measIdx base (tr :: trajs) ≤ logLikelihood sim p measIdx base trajs := by
  rw [logLikelihood_formula, logLikelihood_formula, List.map_cons, List.sum_cons]
  exact neg_le_neg (Real.rpow_le_rpow (terms_sum_nonneg sim p measIdx base trajs)
    (le_add_of_nonneg_left (trajTerm_nonneg sim p measIdx base tr)) (one_div_pos.mpr hp).le)

/-- **a perfect fit scores exactly zero**: if the simulation reproduces every data point of every trajectory (all
residual terms vanish), the log-likelihood is `0`, the maximum `logLikelihood_nonpos` allows. -/
theorem logLikelihood_perfect (sim : List ℝ → List ℝ → List ℝ → List (List ℝ)) (p : ℝ) (hp : 0 < p) (measIdx : List Nat)
    (base : List ℝ) (trajs : List (Traj ℝ)) (h : ∀ tr ∈ trajs, trajTerm sim p measIdx base tr = 0) :
    logLikelihood sim p measIdx base trajs = 0 := by
  rw [logLikelihood_formula, List.sum_eq_zero (List.forall_mem_map.mpr h), Transc.pow_real,
    Real.zero_rpow (one_div_pos.mpr hp).ne', neg_zero]

end composition

end Bioscrape.C15
