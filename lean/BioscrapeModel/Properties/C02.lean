import BioscrapeModel.Proofs.Laws
import BioscrapeModel.Proofs.Expr

/-
C02 — rate and rule expressions evaluate to their mathematical meaning.
-/
set_option linter.unusedSectionVars false

namespace Bioscrape.C02

variable {α : Type} [Field α] [LinearOrder α] [IsStrictOrderedRing α] [Transc α] [LawfulTransc α]

/-! ### Node semantics of the evaluation tree -/

theorem sumLoop_eq (vs : List α) : sumLoop vs = vs.sum := List.sum_eq_foldl.symm

theorem prodLoop_eq (vs : List α) : prodLoop vs = vs.prod := List.prod_eq_foldl.symm

/-- `MaxTerm` returns the lattice maximum of its (non-empty) argument list, `MinTerm` the minimum: the loops'
comparisons are `cmax` and `cmin`. -/
theorem maxLoop_eq (a : α) (rest : List α) : maxLoop (a :: rest) = rest.foldl max a :=
  congrArg (fun f => rest.foldl f a) (funext₂ cmax_eq_max)

theorem minLoop_eq (a : α) (rest : List α) : minLoop (a :: rest) = rest.foldl min a :=
  congrArg (fun f => rest.foldl f a) (funext₂ cmin_eq_min)

/-- **`MaxTerm` is the greatest argument**: an upper bound of every argument that is itself one of them. -/
theorem maxLoop_spec (vs : List α) (hne : vs ≠ []) : (∀ v ∈ vs, v ≤ maxLoop vs) ∧ maxLoop vs ∈ vs := by
  cases vs with
  | nil => exact absurd rfl hne
  | cons a rest => rw [maxLoop_eq]; exact foldl_max_spec rest a

/-- **`MinTerm` is the least argument.** -/
theorem minLoop_spec (vs : List α) (hne : vs ≠ []) : (∀ v ∈ vs, minLoop vs ≤ v) ∧ minLoop vs ∈ vs := by
  cases vs with
  | nil => exact absurd rfl hne
  | cons a rest => rw [minLoop_eq]; exact foldl_min_spec rest a

/-- **the order of the arguments of `Max` / `Min` does not matter**, for any number of arguments (the loop compares
with a strict inequality and keeps the first of equal values; the value is the same either way). -/
theorem maxLoop_perm (vs ws : List α) (h : vs.Perm ws) : maxLoop vs = maxLoop ws := by
  rcases eq_or_ne vs [] with rfl | hne
  · rw [h.symm.eq_nil]
  · exact greatest_eq_of_perm h (maxLoop_spec vs hne) (maxLoop_spec ws fun e => hne (e ▸ h).eq_nil)

theorem minLoop_perm (vs ws : List α) (h : vs.Perm ws) : minLoop vs = minLoop ws := by
  rcases eq_or_ne vs [] with rfl | hne
  · rw [h.symm.eq_nil]
  · exact greatest_eq_of_perm (β := αᵒᵈ) h (minLoop_spec vs hne) (minLoop_spec ws fun e => hne (e ▸ h).eq_nil)

/-- **`volume` reads 1 where no volume is in play**: `evaluate` is `volume_evaluate` at volume 1. -/
theorem volEval_one (e : Term α) (x p : Nat → α) (t : α) : e.eval x p t = e.volEval x p 1 t := rfl

/-! ### A formula's evaluation tree computes the formula's meaning; unknown names are rejected -/

/-- the environment a model gives a formula: species, then parameters, then the built-ins (after the
leading-underscore strip), exactly the names `resolveName` accepts. -/
def envOf (species params : List String) (x p : Nat → α) (vol time : α) : Env α := fun name =>
  let name := lookupName species params name
  match species.idxOf? name with
  | some i => some (x i)
  | none =>
    match params.idxOf? name with
    | some i => some (p i)
    | none => if name = "volume" then some vol else if name = "t" then some time else none

/-- the environment is name resolution followed by evaluation of the leaf it yields. -/
theorem envOf_eq (species params : List String) (x p : Nat → α) (vol time : α) (name : String) :
    envOf species params x p vol time name
      = (resolveName (α := α) species params name).toOption.map (·.volEval x p vol time) := by
  unfold envOf resolveName
  dsimp only
  cases species.idxOf? (lookupName species params name) with
  | some i => rfl
  | none =>
    cases params.idxOf? (lookupName species params name) with
    | some i => rfl
    | none => dsimp only; split_ifs <;> rfl

theorem resolveName_rejects (species params : List String) (x p : Nat → α) (vol time : α) (name : String) (msg : String)
    (h : resolveName (α := α) species params name = .error msg) :
    envOf species params x p vol time name = none := by
  rw [envOf_eq, h]; rfl

section
variable (species params : List String) (x p : Nat → α) (vol time : α)

mutual
/-- **the meaning of a formula is the value of its tree**, and a formula has no meaning exactly when it is
given no tree: `Expr.eval` in the model's environment is `translate` followed by `volEval`.  Each constructor
is one step of `toOption_map_bind₁/₂`, whose last argument says that the tree built for the operator
(sums, products and powers for subtraction, division, negation) evaluates to the operator. -/
theorem eval_envOf : ∀ e : Expr α,
    Expr.eval (envOf species params x p vol time) e
      = (translate species params e).toOption.map (·.volEval x p vol time)
  | .num _ => rfl
  | .ident s => envOf_eq species params x p vol time s
  | .add a b => toOption_map_bind₂ (eval_envOf a) (eval_envOf b)
      fun _ _ => by change 0 + _ + _ = _ + _; rw [zero_add]
  | .sub a b => toOption_map_bind₂ (eval_envOf a) (eval_envOf b)
      fun _ _ => by change 0 + _ + 1 * -1 * _ = _ - _; rw [zero_add, one_mul, neg_one_mul, sub_eq_add_neg]
  | .mul a b => toOption_map_bind₂ (eval_envOf a) (eval_envOf b)
      fun _ _ => by change 1 * _ * _ = _ * _; rw [one_mul]
  | .div a b => toOption_map_bind₂ (eval_envOf a) (eval_envOf b)
      fun _ _ => by
        change 1 * _ * Transc.pow _ (-1) = _ / _
        rw [one_mul, LawfulTransc.pow_neg_one, div_eq_mul_inv]
  | .pow a b => toOption_map_bind₂ (eval_envOf a) (eval_envOf b) fun _ _ => rfl
  | .neg a => toOption_map_bind₁ (eval_envOf a)
      fun _ => by change 1 * -1 * _ = -_; rw [one_mul, neg_one_mul]
  | .exp a => toOption_map_bind₁ (eval_envOf a) fun _ => rfl
  | .log a => toOption_map_bind₁ (eval_envOf a) fun _ => rfl
  | .abs a => toOption_map_bind₁ (eval_envOf a) fun _ => rfl
  | .step a => toOption_map_bind₁ (eval_envOf a) fun _ => rfl
  | .max args => toOption_map_bind₁ (evalList_envOf args) fun _ => rfl
  | .min args => toOption_map_bind₁ (evalList_envOf args) fun _ => rfl
theorem evalList_envOf : ∀ es : List (Expr α),
    Expr.evalList (envOf species params x p vol time) es
      = (translateList species params es).toOption.map (Term.volEvalList x p vol time)
  | [] => rfl
  | a :: rest => toOption_map_bind₂ (eval_envOf a) (evalList_envOf rest) fun _ _ => rfl
end

end

/-- **soundness of the translation**: whenever a formula is accepted, the tree built for it evaluates — for
every state, parameter vector, time and volume — to the meaning of the written formula. -/
theorem translate_sound (species params : List String) (x p : Nat → α) (vol time : α) :
    ∀ (e : Expr α) (t : Term α), translate species params e = .ok t →
      Expr.eval (envOf species params x p vol time) e = some (t.volEval x p vol time) :=
  fun e t h => by rw [eval_envOf, h]; rfl

theorem translateList_sound (species params : List String) (x p : Nat → α) (vol time : α) :
    ∀ (es : List (Expr α)) (ts : List (Term α)), translateList species params es = .ok ts →
      Expr.evalList (envOf species params x p vol time) es = some (Term.volEvalList x p vol time ts) :=
  fun es ts h => by rw [evalList_envOf, h]; rfl

/-- a formula with no meaning in the model's environment (it mentions a name that is neither a species, a
parameter nor a built-in) is never given a tree, hence never a value. -/
theorem translate_rejects_meaningless (species params : List String) (x p : Nat → α) (vol time : α) (e : Expr α)
    (h : Expr.eval (envOf species params x p vol time) e = none) : ∃ msg, translate species params e = .error msg := by
  rw [eval_envOf] at h
  cases ht : translate species params e with
  | error m => exact ⟨m, rfl⟩
  | ok t => rw [ht] at h; cases h

/-- an identifier that is not a species, a parameter, `volume` or `t` (after the underscore strip) is
rejected with an error naming it. -/
theorem unknown_name_rejected (species params : List String) (name : String)
    (hs : lookupName species params name ∉ species) (hp : lookupName species params name ∉ params)
    (hv : lookupName species params name ≠ "volume") (ht : lookupName species params name ≠ "t") :
    ∃ msg, translate (α := α) species params (.ident name) = .error msg := by
  simp only [translate, resolveName]
  have h1 : species.idxOf? (lookupName species params name) = none := List.idxOf?_eq_none_iff.mpr hs
  have h2 : params.idxOf? (lookupName species params name) = none := List.idxOf?_eq_none_iff.mpr hp
  simp [h1, h2, hv, ht]

/-- a name declared as written is looked up as written, underscore included. -/
theorem declared_name_kept (species params : List String) (name : String) (h : name ∈ species ∨ name ∈ params) :
    lookupName species params name = name := by
  unfold lookupName; rw [if_pos h]

/-! ### Non-vacuity -/
example : ∃ t, translate (α := ℚ) ["A"] ["k"] (.sub (.mul (.ident "k") (.pow (.ident "_A") (.num 2))) (.ident "t")) = .ok t :=
  ⟨_, by simp [translate, resolveName, lookupName, stripName, bind, Except.bind]; rfl⟩

end Bioscrape.C02
