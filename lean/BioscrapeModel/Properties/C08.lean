import BioscrapeModel.Model.ModelState
import BioscrapeModel.Proofs.CreateVectors
import BioscrapeModel.Proofs.Common
import BioscrapeModel.Proofs.Vectors
import BioscrapeModel.Properties.C05

/-
C08 — results depend only on the model's current definition and the seed.

What is proved here (for every edit / every stream): the bookkeeping of incremental edits is
append-only (indices handed out earlier stay valid), every edit invalidates the `initialized` flag and
only `initialize` restores it (after checking that every parameter has a value), setting a parameter
changes that parameter alone, a rule pass and hence a whole simulation writes no parameter other than
the destinations of parameter-assigning rules, and reseeding overwrites the whole generator state.
The end-to-end statement "same definition and seed ⇒ same output" is the correspondence run of the
check (histories on the real object vs a freshly built model); see DESIGN.md §4 C08.
-/
set_option linter.unusedSectionVars false

namespace Bioscrape.C08

variable {α : Type} [Field α] [LinearOrder α] [IsStrictOrderedRing α]

/-! ### Edits invalidate, `initialize` validates -/

theorem addSpecies_clears (m : MState α) (s : String) : (m.addSpecies s).initialized = false := by
  unfold MState.addSpecies; split <;> rfl

/-- `_add_param` finds the name and only clears the flag, or appends it with no value. -/
theorem addParam_ok (m m' : MState α) (p : String) (h : m.addParam p = .ok m') :
    (p ∈ m.params ∧ m' = { m with initialized := false }) ∨
      m' = { m with params := m.params ++ [p], paramVals := m.paramVals ++ [none], initialized := false } := by
  unfold MState.addParam at h
  split_ifs at h with _ hp <;> cases h
  · exact .inl ⟨hp, rfl⟩
  · exact .inr rfl

theorem addParam_clears (m m' : MState α) (p : String) (h : m.addParam p = .ok m') : m'.initialized = false := by
  rcases addParam_ok m m' p h with ⟨_, rfl⟩ | rfl <;> rfl

theorem initialize_sets (m m' : MState α) (h : m.initialize = .ok m') :
    m'.initialized = true ∧ ∀ pv ∈ m.params.zip m.paramVals, pv.2.isSome = true := by
  unfold MState.initialize at h
  split at h
  · cases h
  · next hnone =>
    cases h
    exact ⟨rfl, fun pv hpv => Option.isSome_iff_ne_none.mpr (by simpa using List.find?_eq_none.mp hnone pv hpv)⟩

/-- a model with an unset parameter cannot be initialised (so no simulator is ever reached). -/
theorem initialize_fails_of_unset (m : MState α) (p : String) (h : (p, none) ∈ m.params.zip m.paramVals) :
    ∃ e, m.initialize = .error e := by
  unfold MState.initialize
  cases hf : (m.params.zip m.paramVals).find? (fun pv => pv.2.isNone) with
  | some pv => exact ⟨_, rfl⟩
  | none => have := List.find?_eq_none.mp hf (p, none) h; simp at this

/-- adding a rule invalidates the model (so the next interface or simulation re-initialises it and rebuilds the
rule vector the simulators read), keeps both indices, and appends exactly that rule. -/
theorem createAdditiveRule_clears (m m' : MState α) (d : String) (ss : List String)
    (h : m.createAdditiveRule d ss = .ok m') :
    m'.initialized = false ∧ m'.rules = m.rules ++ [(d, ss)] ∧ m'.species = m.species ∧ m'.params = m.params := by
  unfold MState.createAdditiveRule at h
  split_ifs at h
  cases h
  exact ⟨rfl, rfl, rfl, rfl⟩

/-- a mass-action reaction invalidates the model. -/
theorem createMassAction_clears (m m' : MState α) (r p : List String) (k : KArg α)
    (h : m.createMassAction r p k = .ok m') : m'.initialized = false := by
  simp only [MState.createMassAction, Except.bind_eq_ok] at h
  obtain ⟨_, _, _, _, h⟩ := h
  cases h
  rfl

/-- a delayed reaction invalidates the model (so its delay object reaches the vector the delay simulators read). -/
theorem createDelayed_clears (m m' : MState α) (r p : List String) (k : KArg α) (dp : List String) (tau : String)
    (h : m.createDelayed r p k dp tau = .ok m') : m'.initialized = false := by
  simp only [MState.createDelayed, Except.bind_eq_ok] at h
  obtain ⟨_, _, _, _, _, _, h⟩ := h
  cases h
  rfl

theorem setParameter_flag (m m' : MState α) (p : String) (v : α) (h : m.setParameter p v = .ok m') :
    m'.initialized = m.initialized ∨ m'.initialized = false := by
  unfold MState.setParameter at h
  split at h
  · cases h; exact Or.inl rfl
  · obtain ⟨m1, h1, h⟩ := Except.bind_eq_ok.mp h
    cases h
    exact Or.inr (addParam_clears m m1 p h1)

theorem createParameter_clears (m m' : MState α) (p : String) (v : α) (h : m.createParameter p v = .ok m') :
    m'.initialized = false := by
  unfold MState.createParameter at h
  obtain ⟨m1, ha, hs⟩ := Except.bind_eq_ok.mp h
  rcases setParameter_flag m1 m' p v hs with h1 | h1
  · exact h1.trans (addParam_clears m m1 p ha)
  · exact h1

/-- **every structural edit clears `initialized`** (species, parameter, reaction, rule). -/
theorem structural_edit_clears (m m' : MState α) (op : MOp α) (h : m.step op = .ok m')
    (hop : match op with
      | .addSpecies _ | .createParameter _ _ | .createMassAction _ _ _ | .createDelayed _ _ _ _ _ | .createAdditiveRule _ _ => True
      | _ => False) : m'.initialized = false := by
  cases op with
  | addSpecies s => simp only [MState.step] at h; cases h; exact addSpecies_clears m s
  | createParameter p v => exact createParameter_clears m m' p v h
  | createMassAction r p k => exact createMassAction_clears m m' r p k h
  | createDelayed r p k dp tau => exact createDelayed_clears m m' r p k dp tau h
  | createAdditiveRule d ss => exact (createAdditiveRule_clears m m' d ss h).1
  | _ => exact hop.elim

/-! ### Indices are append-only -/

theorem addSpecies_prefix (m : MState α) (s : String) :
    m.species <+: (m.addSpecies s).species ∧ (m.addSpecies s).params = m.params := by
  unfold MState.addSpecies; split <;> simp

theorem addParam_prefix (m m' : MState α) (p : String) (h : m.addParam p = .ok m') :
    m.params <+: m'.params ∧ m'.species = m.species ∧ p ∈ m'.params := by
  rcases addParam_ok m m' p h with ⟨hp, rfl⟩ | rfl
  · exact ⟨List.prefix_refl _, rfl, hp⟩
  · exact ⟨List.prefix_append _ _, rfl, by simp⟩

/-- species already indexed keep their index whatever is added later. -/
theorem prefix_index_stable (l l' : List String) (s : String) (h : l <+: l') (hs : s ∈ l) :
    l'.idxOf s = l.idxOf s := by
  obtain ⟨t, rfl⟩ := h
  exact List.idxOf_append_of_mem hs

/-! ### Setting a parameter changes that parameter alone -/

theorem setParameter_known (m m' : MState α) (p : String) (v : α) (hp : p ∈ m.params)
    (h : m.setParameter p v = .ok m') :
    m'.params = m.params ∧ m'.species = m.species ∧ m'.speciesVals = m.speciesVals
      ∧ m'.initialized = m.initialized
      ∧ m'.paramVals = m.paramVals.set (m.params.idxOf p) (some v) := by
  unfold MState.setParameter at h
  simp only [hp, if_true, pure, Except.pure, bind, Except.bind] at h
  cases h
  exact ⟨rfl, rfl, rfl, rfl, rfl⟩

/-- reading back what was set; every other parameter keeps its value. -/
theorem set_then_get (vals : List (Option α)) (i j : Nat) (v : α) (hi : i < vals.length) :
    (vals.set i (some v))[i]? = some (some v) ∧ (j ≠ i → (vals.set i (some v))[j]? = vals[j]?) := by
  constructor
  · simp [hi]
  · intro hne; simp [Ne.symm hne]

/-! ### Simulating writes no parameter that no rule assigns -/

variable [Transc α]

/-- parameter indices written by a rule. -/
def paramDest : Rule α → Option Nat
  | ⟨_, .assign true d _⟩ => some d
  | ⟨_, .ode true d _⟩ => some d
  | _ => none

theorem ruleOp_params_frame (op : RuleOp α) (x p : List α) (vol t dt : α) (j : Nat) (f : α)
    (hj : paramDest ⟨f, op⟩ ≠ some j) : vecGet (op.apply x p vol t dt).2 j = vecGet p j := by
  cases op with
  | additive d srcs => rfl
  | assign toP d rhs | ode toP d rhs =>
    cases toP
    · rfl
    · exact vecGet_set_ne _ _ fun e => hj (e ▸ rfl)

/-- **a rule pass leaves every parameter that no rule assigns exactly as it was.** -/
theorem applyRules_params_frame (rules : List (Rule α)) (x p : List α) (vol t dt : α) (rs : Bool) (j : Nat)
    (hj : ∀ r ∈ rules, paramDest r ≠ some j) :
    vecGet (applyRules rules x p vol t dt rs).2 j = vecGet p j := by
  unfold applyRules
  induction rules generalizing x p with
  | nil => rfl
  | cons r rest ih =>
    rw [List.foldl_cons]
    have hr := hj r (by simp)
    have hrest : ∀ r' ∈ rest, paramDest r' ≠ some j := fun r' h' => hj r' (List.mem_cons_of_mem _ h')
    rw [ih _ _ hrest]
    unfold Rule.execute
    split
    · obtain ⟨f, op⟩ := r; exact ruleOp_params_frame op x p vol t dt j f hr
    · rfl

/-- **one SSA iteration, and hence a whole simulation, writes no other parameter** (the simulators only
read parameters; the state they update is a copy of the initial condition). -/
theorem jumpStep_params_frame {σ : Type} [Trunc α] (g : Gen σ α) (m : SimModel α) (times : List α)
    (s : LoopState σ α) (j : Nat) (hj : ∀ r ∈ m.rules, paramDest r ≠ some j) :
    vecGet (C05.jumpStep g m times s).p j = vecGet s.p j := by
  rw [(C05.jumpStep_outcome g m times s).2.1]
  exact applyRules_params_frame m.rules s.x s.p 1 s.t m.dt s.ruleStep j hj

theorem jump_run_params_frame {σ : Type} [Trunc α] (g : Gen σ α) (m : SimModel α) (times : List α) (fuel : Nat)
    (s s' : LoopState σ α) (j : Nat) (hj : ∀ r ∈ m.rules, paramDest r ≠ some j)
    (hrun : runLoop (C05.jumpStep g m times) times.length fuel s = some s') : vecGet s'.p j = vecGet s.p j :=
  (runLoop_induction _ _ (fun s₁ => vecGet s₁.p j = vecGet s.p j)
    (fun s₁ _ h => (jumpStep_params_frame g m times s₁ j hj).trans h) fuel s s' rfl hrun).1

/-- the initial condition handed to a simulator is the model's species vector and is not part of the
loop state that gets updated: the first thing a loop does is copy it (`initState`). -/
theorem initState_copies {σ : Type} (m : SimModel α) (x0 p0 : List α) (g0 : σ) (vol0 : α) (q0 : DQ α) :
    (initState m x0 p0 g0 vol0 q0).x = x0 ∧ (initState m x0 p0 g0 vol0 q0).rows = [] := ⟨rfl, rfl⟩

/-! ### Seeding -/

/-- **`mt_seed` overwrites the whole generator**: all 312 words and the index are functions of the seed
alone (the definition takes no previous state), so `seed s; run` is a function of `s`. -/
theorem seed_overwrites (s : UInt64) : (MT.seed s).mt.size = 312 ∧ (MT.seed s).mti = 312 := by
  unfold MT.seed
  refine ⟨?_, rfl⟩
  simp only
  rw [foldl_push_size]
  simp [MT.NN]

/-! ### Non-vacuity -/
example : ((MState.empty (α := ℚ)).addSpecies "A").species = ["A"] := by decide
example : (paramDest (α := ℚ) ⟨-1, .assign true 3 (.const 1)⟩) = some 3 := rfl

/-! ### `_create_vectors`: every container the simulators read is rebuilt from the definition on every initialisation -/
section createVectors
open Bioscrape.CreateVectors Bioscrape.Generated

/-- **a container that is wiped before it is filled ends up with the same contents whatever it held before**: the items
its loops produce from the definition lists, in order — no leftovers of an earlier initialisation, nothing twice. -/
theorem rebuilt_independent {I : Type} (ops : List (String × String)) (out : Nat → List I) (i : Nat) (st st' : Store I)
    (n : String) (h : wipedFirst ops n = true) : runOps ops out i st n = runOps ops out i st' n :=
  runOps_congr ops out i st st' n (.inr h)

/-- every filled container of a program that meets the obligation is rebuilt independently of its old contents. -/
theorem program_rebuilds {I : Type} (p : VecProgram) (hp : programOk p = true) (out : Nat → List I) (st st' : Store I)
    (k n : String) (hn : (k, n) ∈ p.ops) (hk : isFill k = true) :
    runOps p.ops out 0 st n = runOps p.ops out 0 st' n := by
  unfold programOk at hp
  simp only [Bool.and_eq_true, List.all_eq_true, List.mem_filter] at hp
  exact rebuilt_independent p.ops out 0 st st' n (hp.2 (k, n) ⟨hn, hk⟩)

/-- the obligations, regenerated from `bioscrape/types.pyx` and `lineage/lineage.pyx`. -/
theorem programOk_Model : programOk (programOf "Model") = true := by decide +kernel
theorem programOk_LineageModel : programOk (programOf "LineageModel") = true := by decide +kernel

/-- the delay vector and the lineage rule vectors are among the rebuilt containers. -/
example : ("push", "c_delays") ∈ (programOf "Model").ops := by decide +kernel
example : ("push", "c_division_rules") ∈ (programOf "LineageModel").ops := by decide +kernel

/-- a program that fills a vector it never wipes (the shape of two seeded changes and of the pinned tree's lineage
defect) does not meet the obligation, and its result does depend on the old contents. -/
example : programOk { cls := "x", ops := [("clear", "c_propensities"), ("push", "c_propensities"), ("push", "c_delays")] } = false := by
  decide +kernel
example : runOps [("push", "c_delays")] (fun _ => [7]) 0 (fun _ => [1]) "c_delays" = [1, 7] := by decide +kernel

end createVectors

end Bioscrape.C08
