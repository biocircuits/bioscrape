import Mathlib.Probability.Distributions.Gaussian.Real
import Mathlib.Probability.Distributions.Beta
import Mathlib.Probability.Distributions.Exponential
import BioscrapeModel.Proofs.Priors
import BioscrapeModel.Generated.PriorDispatch

/-
C16 — built-in priors are the log-densities they are named after.

Over the real numbers (`Transc ℝ`: `pow = rpow`, `exp`, `log`, `sqrt`), against Mathlib's own
densities where they exist.
-/

namespace Bioscrape.C16
open ProbabilityTheory

local notation "π'" => Real.pi

/-! ### Uniform -/

theorem uniform_logpdf (lb ub x : ℝ) (h1 : lb ≤ x) (h2 : x ≤ ub) :
    logPrior π' (.uniform lb ub) x = some (Real.log (1 / (ub - lb))) := by
  dsimp only [logPrior]
  rw [if_neg (not_or.mpr ⟨not_lt.mpr h2, not_lt.mpr h1⟩)]
  rfl

theorem uniform_rejects (lb ub x : ℝ) (h : x < lb ∨ ub < x) : logPrior π' (.uniform lb ub) x = none :=
  if_pos h.symm

/-! ### Gaussian -/

theorem gaussian_logpdf (mu sigma x : ℝ) (hs : 0 < sigma) :
    logPrior π' (.gaussian mu sigma) x
      = some (Real.log (gaussianPDFReal mu (Real.toNNReal (sigma ^ 2)) x)) := by
  dsimp only [logPrior]
  refine logOfProb_eq ?_ (gaussianPDFReal_nonneg _ _ _)
  rw [gaussExp_real, Transc.sqrt_real, Nat.cast_ofNat, gaussianPDFReal, Real.coe_toNNReal _ (sq_nonneg sigma),
    Real.sqrt_mul (by positivity : (0 : ℝ) ≤ 2 * π') (sigma ^ 2), Real.sqrt_sq hs.le, one_div]

/-- the Gaussian prior is symmetric about its mean and accepts every real value (it has no support to leave). -/
theorem gaussian_symmetric (mu sigma d : ℝ) :
    logPrior π' (.gaussian mu sigma) (mu + d) = logPrior π' (.gaussian mu sigma) (mu - d) := by
  dsimp only [logPrior]
  rw [add_sub_cancel_left, sub_sub_cancel_left, sq_real d, sq_real (-d), neg_sq]

theorem gaussian_never_rejects (mu sigma x : ℝ) (hs : 0 < sigma) : (logPrior π' (.gaussian mu sigma) x).isSome = true := by
  rw [gaussian_logpdf mu sigma x hs]; rfl

/-- inside its support the uniform prior does not depend on the value at all. -/
theorem uniform_flat (lb ub x y : ℝ) (hx : lb ≤ x ∧ x ≤ ub) (hy : lb ≤ y ∧ y ≤ ub) :
    logPrior π' (.uniform lb ub) x = logPrior π' (.uniform lb ub) y := by
  rw [uniform_logpdf lb ub x hx.1 hx.2, uniform_logpdf lb ub y hy.1 hy.2]

/-! ### Exponential (rate λ) -/

theorem exponential_logpdf (lam x : ℝ) (hl : 0 < lam) (hx : 0 ≤ x) :
    logPrior π' (.exponential lam) x = some (Real.log (exponentialPDFReal lam x)) := by
  dsimp only [logPrior]
  rw [if_neg (not_lt.mpr hx)]
  refine logOfProb_eq ?_ (exponentialPDFReal_nonneg hl x)
  rw [exponentialPDFReal, gammaPDFReal, if_pos hx, Real.Gamma_one, Real.rpow_one, div_one, sub_self, Real.rpow_zero,
    mul_one, neg_mul]
  rfl

theorem exponential_rejects (lam x : ℝ) (hx : x < 0) : logPrior π' (.exponential lam) x = none :=
  if_pos hx

/-! ### Gamma (shape α, rate β) -/

theorem gamma_logpdf (a b x : ℝ) (ha : 0 < a) (hb : 0 < b) (hx : 0 ≤ x) :
    logPrior π' (.gamma a b (Real.Gamma a)) x = some (Real.log (gammaPDFReal a b x)) := by
  dsimp only [logPrior]
  rw [if_neg (not_lt.mpr hx)]
  refine logOfProb_eq ?_ (gammaPDFReal_nonneg ha hb x)
  rw [gammaPDFReal, if_pos hx, neg_one_mul, neg_mul]
  rfl

theorem gamma_rejects (a b g x : ℝ) (hx : x < 0) : logPrior π' (.gamma a b g) x = none :=
  if_pos hx

/-! ### Beta -/

theorem beta_logpdf (a b x : ℝ) (ha : 0 < a) (hb : 0 < b) (h0 : 0 < x) (h1 : x < 1) :
    logPrior π' (.beta a b (ProbabilityTheory.beta a b)) x = some (Real.log (betaPDFReal a b x)) := by
  dsimp only [logPrior]
  rw [if_neg (not_or.mpr ⟨not_lt.mpr h0.le, not_lt.mpr h1.le⟩)]
  refine logOfProb_eq ?_ (betaPDFReal_pos h0 h1 ha hb).le
  rw [betaPDFReal, if_pos ⟨h0, h1⟩, Transc.pow_real, Transc.pow_real]
  ring

theorem beta_rejects (a b B x : ℝ) (hx : x < 0 ∨ 1 < x) : logPrior π' (.beta a b B) x = none :=
  if_pos hx

/-! ### Log-uniform and log-Gaussian (densities written out) -/

theorem logUniform_logpdf (lb ub x : ℝ) (hlb : 0 < lb) (hlu : lb < ub) (h1 : lb ≤ x) (h2 : x ≤ ub) :
    logPrior π' (.logUniform lb ub) x = some (Real.log (1 / (x * (Real.log ub - Real.log lb)))) := by
  dsimp only [logPrior]
  rw [if_neg (not_or.mpr ⟨not_lt.mpr h2, not_lt.mpr h1⟩)]
  exact logOfProb_eq rfl (one_div_nonneg.mpr
    (mul_nonneg (hlb.le.trans h1) (sub_nonneg.mpr (Real.log_le_log hlb hlu.le))))

theorem logUniform_rejects (lb ub x : ℝ) (h : x < lb ∨ ub < x) : logPrior π' (.logUniform lb ub) x = none :=
  if_pos h.symm

/-- log-normal density `1/(xσ√(2π)) · exp(−(ln x − μ)²/(2σ²))`. -/
noncomputable def logNormalPDF (mu sigma x : ℝ) : ℝ :=
  1 / (x * sigma * Real.sqrt (2 * π')) * Real.exp (-(Real.log x - mu) ^ 2 / (2 * sigma ^ 2))

theorem logGaussian_logpdf (mu sigma x : ℝ) (hs : 0 < sigma) (hx : 0 < x) :
    logPrior π' (.logGaussian mu sigma) x = some (Real.log (logNormalPDF mu sigma x)) := by
  dsimp only [logPrior]
  rw [if_neg (not_le.mpr hx)]
  refine logOfProb_eq ?_ (by unfold logNormalPDF; positivity)
  rw [gaussExp_real, Transc.sqrt_real, Transc.log_real, Nat.cast_ofNat, logNormalPDF, mul_right_comm x]

theorem logGaussian_rejects (mu sigma x : ℝ) (hx : x ≤ 0) : logPrior π' (.logGaussian mu sigma) x = none :=
  if_pos hx

/-! ### Vectors of parameters -/

/-- a negative value under the `positive` flag rejects the vector, whatever the priors. -/
theorem positive_flag_rejects (pre post : List (PriorSpec ℝ × Bool × ℝ)) (spec : PriorSpec ℝ) (x : ℝ) (hx : x < 0) :
    checkPrior π' (pre ++ (spec, true, x) :: post) = none := by
  rw [checkPrior_eq, if_neg]
  simp [itemLp, hx]

/-- the log-prior of a vector whose entries are all accepted is the sum of the entries' log-priors. -/
theorem vector_prior_is_sum (items : List (PriorSpec ℝ × Bool × ℝ)) (ls : List ℝ)
    (h : List.Forall₂ (fun it l => ¬ (it.2.1 = true ∧ it.2.2 < 0) ∧ logPrior π' it.1 it.2.2 = some l) items ls) :
    checkPrior π' items = some ls.sum := by
  suffices ∀ acc : ℝ, items.foldl (priorStep π') (some acc) = some (acc + ls.sum) by
    rw [checkPrior, this, zero_add]
  induction h with
  | nil => intro acc; rw [List.sum_nil, add_zero]; rfl
  | cons hhead _ ih =>
    intro acc
    rw [List.foldl_cons, priorStep_some, itemLp, if_neg hhead.1, hhead.2, Option.map_some, ih, List.sum_cons, add_assoc]

/-- the posterior is −∞ exactly when the prior rejects: `get_likelihood_function` returns `-np.inf` when
`check_prior` is not finite (modelled by `none`). -/
noncomputable def posterior (pi : ℝ) (items : List (PriorSpec ℝ × Bool × ℝ)) (logLik : ℝ) : Option ℝ :=
  (checkPrior pi items).map (· + logLik)

theorem posterior_neg_inf_of_rejected (items : List (PriorSpec ℝ × Bool × ℝ)) (ll : ℝ)
    (h : checkPrior π' items = none) : posterior π' items ll = none := by
  rw [posterior, h]; rfl

/-! ### The two dictionaries are read by parameter name: their order does not matter -/

/-- **the log-prior of a parameter vector does not depend on the order in which the parameters are listed.** -/
theorem checkPrior_perm (pi : ℝ) (items items' : List (PriorSpec ℝ × Bool × ℝ)) (h : items.Perm items') :
    checkPrior pi items = checkPrior pi items' := by
  rw [checkPrior_eq, checkPrior_eq, h.all_eq, (h.map _).sum_eq]

/-- `self.prior[key]`: the prior registered under a parameter's *name*. -/
def lookupPrior (prior : List (String × PriorSpec ℝ × Bool)) (n : String) : Option (PriorSpec ℝ × Bool) :=
  (prior.find? (fun e => e.1 == n)).map (·.2)

/-- the entries `check_prior` works through: every (name, value) of the parameter dictionary with the prior of that name. -/
def itemsOf (prior : List (String × PriorSpec ℝ × Bool)) (vals : List (String × ℝ)) : List (PriorSpec ℝ × Bool × ℝ) :=
  vals.filterMap (fun nv => (lookupPrior prior nv.1).map (fun sp => (sp.1, sp.2, nv.2)))

/-- with distinct keys, the entry found under a name is the only entry of that name. -/
theorem lookup_iff_mem (prior : List (String × PriorSpec ℝ × Bool)) (hk : (prior.map (·.1)).Nodup) (n : String)
    (v : PriorSpec ℝ × Bool) : lookupPrior prior n = some v ↔ (n, v) ∈ prior := by
  unfold lookupPrior
  have key {e} (he : prior.find? (fun e => e.1 == n) = some e) : e.1 = n := by simpa using List.find?_some he
  constructor
  · intro h
    obtain ⟨e, he, rfl⟩ := Option.map_eq_some_iff.mp h
    rw [← key he]
    exact List.mem_of_find?_eq_some he
  · intro h
    cases he : prior.find? (fun e => e.1 == n) with
    | none => exact absurd (beq_self_eq_true n) (List.find?_eq_none.mp he (n, v) h)
    | some e => rw [Option.map_some, List.inj_on_of_nodup_map hk (List.mem_of_find?_eq_some he) h (key he)]

/-- the prior dictionary is read by key: listing its entries in another order changes nothing. -/
theorem lookup_perm (prior prior' : List (String × PriorSpec ℝ × Bool)) (h : prior.Perm prior')
    (hk : (prior.map (·.1)).Nodup) (n : String) : lookupPrior prior n = lookupPrior prior' n :=
  Option.ext fun v => by
    rw [lookup_iff_mem prior hk, lookup_iff_mem prior' ((h.map _).nodup_iff.mp hk), h.mem_iff]

/-- **`check_prior` is a function of the two dictionaries as dictionaries**: neither the order of the prior's entries nor
the order of the values matters (each value meets the prior registered under its own name). -/
theorem checkPrior_dict_order (prior prior' : List (String × PriorSpec ℝ × Bool)) (vals vals' : List (String × ℝ))
    (hp : prior.Perm prior') (hk : (prior.map (·.1)).Nodup) (hv : vals.Perm vals') :
    checkPrior π' (itemsOf prior vals) = checkPrior π' (itemsOf prior' vals') := by
  have h1 : itemsOf prior = itemsOf prior' := by
    funext vals
    simp only [itemsOf, lookup_perm prior prior' hp hk]
  rw [h1]
  exact checkPrior_perm _ _ _ (hv.filterMap _)

/-! ### The dispatch chain of `check_prior` (regenerated from the source on every run) -/

/-- each prior type string is routed to the method of the same name, and the `positive` flag is tested
first. -/
theorem dispatch_table_ok :
    Bioscrape.Generated.priorDispatch =
      [("uniform", "uniform_prior"), ("gaussian", "gaussian_prior"), ("exponential", "exponential_prior"),
       ("gamma", "gamma_prior"), ("log-uniform", "log_uniform_prior"), ("log-gaussian", "log_gaussian_prior"),
       ("beta", "beta_prior")]
    ∧ Bioscrape.Generated.positiveFlagChecked = true :=
  ⟨rfl, rfl⟩

/-! ### Non-vacuity -/
example : logPrior π' (.exponential 2) (-1) = none := exponential_rejects 2 (-1) (by norm_num)
example : logPrior π' (.uniform 0 4) 1 = some (Real.log (1 / (4 - 0))) := uniform_logpdf 0 4 1 (by norm_num) (by norm_num)

end Bioscrape.C16
