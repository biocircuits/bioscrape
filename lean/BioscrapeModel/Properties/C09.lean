import BioscrapeModel.Properties.C11
import BioscrapeModel.Model.Lineage

/-
C09 — rules hold on every reported row and fire on their schedule.
-/
set_option linter.unusedSectionVars false

namespace Bioscrape.C09
open Bioscrape.C05

variable {σ α : Type} [Field α] [LinearOrder α] [IsStrictOrderedRing α] [Transc α] [Trunc α]

/-! ### Rule lists in dependency order -/

/-- the state rules act on: species vector and parameter vector. -/
abbrev St (α : Type) := List α × List α

/-- a rule "holds" in a state when executing it changes nothing: for an assignment rule this says
`dest = rhs(state, params)`. -/
def Holds (f : St α → St α) (s : St α) : Prop := f s = s

/-- dependency order (explicit predicate): every rule is idempotent (its right-hand side does not read
its own destination) and no later rule disturbs an earlier one that already holds (it writes neither
the earlier rule's destination nor anything the earlier right-hand side reads). -/
def DepOrdered : List (St α → St α) → Prop
  | [] => True
  | f :: rest => (∀ s, Holds f (f s)) ∧ (∀ h ∈ rest, ∀ s, Holds f s → Holds f (h s)) ∧ DepOrdered rest

def applyAll (fs : List (St α → St α)) (s : St α) : St α := fs.foldl (fun s f => f s) s

theorem holds_preserved (f : St α → St α) (rest : List (St α → St α)) (s : St α)
    (hp : ∀ h ∈ rest, ∀ s, Holds f s → Holds f (h s)) (hs : Holds f s) : Holds f (applyAll rest s) := by
  unfold applyAll
  induction rest generalizing s with
  | nil => exact hs
  | cons h rest ih =>
    rw [List.foldl_cons]
    exact ih (h s) (fun h' hh' => hp h' (List.mem_cons_of_mem _ hh')) (hp h (by simp) s hs)

/-- **after one pass over rules in dependency order every rule holds** (for rule lists of any length). -/
theorem applyAll_holds (fs : List (St α → St α)) (hd : DepOrdered fs) (s : St α) :
    ∀ f ∈ fs, Holds f (applyAll fs s) := by
  induction fs generalizing s with
  | nil => intro f hf; simp at hf
  | cons f rest ih =>
    intro f' hf'
    obtain ⟨hidem, hpres, hrest⟩ := hd
    have hunf : applyAll (f :: rest) s = applyAll rest (f s) := by simp [applyAll]
    rw [hunf]
    rcases List.mem_cons.mp hf' with h | h
    · subst h; exact holds_preserved f' rest (f' s) hpres (hidem s)
    · exact ih hrest (f s) f' h

/-- a rule of the model as a state transformer, at fixed volume, time, dt and rule-step flag. -/
def ruleFn (vol t dt : α) (rs : Bool) (r : Rule α) : St α → St α :=
  fun s => r.execute s.1 s.2 vol t dt rs

theorem applyRules_eq_applyAll (rules : List (Rule α)) (x p : List α) (vol t dt : α) (rs : Bool) :
    applyRules rules x p vol t dt rs = applyAll (rules.map (ruleFn vol t dt rs)) (x, p) := by
  unfold applyRules applyAll
  rw [List.foldl_map]
  rfl

/-- **rules hold after the rule pass**: for rules chained in dependency order, the state produced by
`apply_repeated_(volume_)rules` satisfies every rule of the list. -/
theorem rules_hold_after_pass (rules : List (Rule α)) (x p : List α) (vol t dt : α) (rs : Bool)
    (hd : DepOrdered (rules.map (ruleFn vol t dt rs))) :
    ∀ r ∈ rules, Holds (ruleFn vol t dt rs r) (applyRules rules x p vol t dt rs) := by
  intro r hr
  rw [applyRules_eq_applyAll]
  exact applyAll_holds _ hd (x, p) _ (List.mem_map_of_mem hr)

/-- for a repeated assignment rule to a species, "holds" is the equation itself. -/
theorem holds_assign_species (dest : Nat) (rhs : Term α) (x p : List α) (vol t dt : α) (rs : Bool)
    (hd : dest < x.length)
    (h : Holds (ruleFn vol t dt rs ⟨-1, .assign false dest rhs⟩) (x, p)) :
    vecGet x dest = rhs.volEval (vecGet x) (vecGet p) vol t := by
  unfold Holds ruleFn Rule.execute Rule.fires at h
  simp only [feq, lt_irrefl, not_false_eq_true, decide_true, Bool.and_self, Bool.true_or, if_true,
    RuleOp.apply, Bool.false_eq_true, if_false, Prod.mk.injEq, and_true] at h
  have := congrArg (fun l => l.getD dest 0) h
  simp only [List.getD_eq_getElem?_getD, List.getElem?_set_self hd, Option.getD_some] at this
  simpa [vecGet, List.getD_eq_getElem?_getD] using this.symm

/-- and to a parameter. -/
theorem holds_assign_param (dest : Nat) (rhs : Term α) (x p : List α) (vol t dt : α) (rs : Bool)
    (hd : dest < p.length)
    (h : Holds (ruleFn vol t dt rs ⟨-1, .assign true dest rhs⟩) (x, p)) :
    vecGet p dest = rhs.volEval (vecGet x) (vecGet p) vol t := by
  unfold Holds ruleFn Rule.execute Rule.fires at h
  simp only [feq, lt_irrefl, not_false_eq_true, decide_true, Bool.and_self, Bool.true_or, if_true,
    RuleOp.apply, Prod.mk.injEq, true_and] at h
  have := congrArg (fun l => l.getD dest 0) h
  simp only [List.getD_eq_getElem?_getD, List.getElem?_set_self hd, Option.getD_some] at this
  simpa [vecGet, List.getD_eq_getElem?_getD] using this.symm

/-! ### Reported rows are rule-updated states; rates see the rule-updated state -/

/-- every row written by an SSA step is the state *after* the rule pass of that iteration (and before
any reaction update), and the propensities of the step are computed from that same state and the
rule-updated parameters. -/
theorem rows_and_rates_see_ruled_state (g : Gen σ α) (m : SimModel α) (times : List α) (s : LoopState σ α) :
    ∃ k, (jumpStep g m times s).rows
        = s.rows ++ replicateRow k (applyRules m.rules s.x s.p 1 s.t m.dt s.ruleStep).1 :=
  ⟨_, (jumpStep_outcome g m times s).1.1⟩

/-- the same for the volume loop (rules see the current volume). -/
theorem volume_rows_see_ruled_state (g : Gen σ α) (m : SimModel α) (vm : VolModel α) (times : List α)
    (s : LoopState σ α) :
    ∃ k, (C11.volumeStepSpec g m vm times s).rows
        = s.rows ++ replicateRow k (applyRules m.rules s.x s.p s.vol s.t m.dt s.ruleStep).1 :=
  ⟨_, (C11.volumeStepSpec_outcome g m vm times s).1.1⟩

/-! ### Schedules -/

/-- when a rule fires: always if repeated, at its scheduled time only if scheduled, on rule steps only
if its frequency is `dt`. -/
theorem fires_iff (r : Rule α) (t : α) (rs : Bool) :
    r.fires t rs = true ↔ r.freq = -1 ∨ r.freq = t ∨ (rs = true ∧ r.freq = -2) := by
  unfold Rule.fires feq
  simp only [Bool.or_eq_true, Bool.and_eq_true, decide_eq_true_eq, not_lt]
  constructor
  · rintro ((⟨h1, h2⟩ | ⟨h1, h2⟩) | ⟨h0, h1, h2⟩)
    · left; exact le_antisymm h2 h1
    · right; left; exact le_antisymm h2 h1
    · right; right; exact ⟨h0, by have := le_antisymm h2 h1; simpa using this⟩
  · rintro (h | h | ⟨h0, h⟩)
    · left; left; rw [h]; exact ⟨le_refl _, le_refl _⟩
    · left; right; rw [h]; exact ⟨le_refl _, le_refl _⟩
    · right; refine ⟨h0, ?_⟩; rw [h]; simp

theorem execute_of_not_fires (r : Rule α) (t : α) (x p : List α) (vol dt : α) (rs : Bool)
    (h : ¬ (r.freq = -1 ∨ r.freq = t ∨ (rs = true ∧ r.freq = -2))) : r.execute x p vol t dt rs = (x, p) := by
  rw [Rule.execute, Bool.eq_false_iff.mpr (mt (fires_iff r t rs).mp h)]
  rfl

/-- **a rule scheduled for time `T` leaves every other instant untouched**: it does nothing at any
clock value different from `T` (in particular at all earlier grid times). -/
theorem scheduled_rule_silent (r : Rule α) (T t : α) (x p : List α) (vol dt : α) (rs : Bool)
    (hT : r.freq = T) (h0 : 0 ≤ T) (hne : t ≠ T) : r.execute x p vol t dt rs = (x, p) := by
  -- the flag values `-1` (repeated) and `-2` (every `dt`) are negative, a scheduled time is not
  refine execute_of_not_fires r t x p vol dt rs ?_
  rw [hT]
  rintro (h | h | ⟨-, h⟩)
  · rw [h] at h0; exact absurd h0 (by norm_num)
  · exact hne h.symm
  · rw [h] at h0; exact absurd h0 (by norm_num)

/-- and it is executed when the clock is exactly `T`. -/
theorem scheduled_rule_fires (r : Rule α) (T : α) (x p : List α) (vol dt : α) (rs : Bool) (hT : r.freq = T) :
    r.execute x p vol T dt rs = r.op.apply x p vol T dt := by
  have : r.fires T rs = true := (fires_iff r T rs).mpr (Or.inr (Or.inl hT))
  simp [Rule.execute, this]

/-- **`dt` rules run on rule steps only**, and the SSA loop raises the rule-step flag exactly when the
iteration ended by arriving at a grid time (never after a reaction fired): hence once per elapsed
time step, however many reactions fire in between. -/
theorem dt_rule_needs_rule_step (r : Rule α) (t : α) (x p : List α) (vol dt : α)
    (hf : r.freq = -2) (ht : t ≠ -2) : r.execute x p vol t dt false = (x, p) := by
  -- `execute_rule` compares the flag with the clock itself (`flag == time`): a clock value of `-2` would fire it
  refine execute_of_not_fires r t x p vol dt false ?_
  rw [hf]
  rintro (h | h | ⟨h, -⟩)
  · norm_num at h
  · exact ht h.symm
  · cases h

theorem ruleStep_iff_arrival (g : Gen σ α) (m : SimModel α) (times : List α) (s : LoopState σ α)
    (h : (jumpStep g m times s).ruleStep = true) : (jumpStep g m times s).t = times.getD s.idx 0 :=
  (jumpStep_outcome g m times s).2.2.2.1 h

/-- **an ODE rule advances its target by `rate × dt`** each time it runs. -/
theorem ode_rule_step (dest : Nat) (rhs : Term α) (x p : List α) (vol t dt : α) (hd : dest < x.length) :
    vecGet ((RuleOp.ode false dest rhs).apply x p vol t dt).1 dest
      = vecGet x dest + rhs.volEval (vecGet x) (vecGet p) vol t * dt := by
  simp [RuleOp.apply, vecGet, List.getD_eq_getElem?_getD, List.getElem?_set_self hd]

/-- an additive rule assigns the sum of its sources. -/
theorem additive_rule (dest : Nat) (srcs : List Nat) (x p : List α) (vol t dt : α) (hd : dest < x.length) :
    vecGet ((RuleOp.additive (α := α) dest srcs).apply x p vol t dt).1 dest
      = (srcs.map (vecGet x)).sum := by
  simp only [RuleOp.apply, vecGet, List.getD_eq_getElem?_getD, List.getElem?_set_self hd, Option.getD_some]
  rw [foldl_add_eq_add_sum, zero_add]
  rfl

/-! ### The lineage single-cell loop -/

/-- **lineage loop: a rule step is raised exactly when the clock arrives at a time step** (a grid time, the final
time, or a pure time step while no reaction can fire): so a `dt` or ODE rule runs once per elapsed step however many
reactions fire in between, and keeps running after all reactions have become impossible. -/
theorem cell_ruleStep_iff_tick (g : Gen σ α) (m : CellModel α) (dt final : α) (s : CellLoop σ α) (pre : CellPre σ α) :
    (cellTiming g m dt final s pre).rstep = (cellTiming g m dt final s pre).toQ := by
  unfold cellTiming
  dsimp only
  generalize arraySum (m.propensities pre.x pre.p s.vol s.t) = L
  generalize exponentialRv g L pre.g = wg
  cases feq L 0 <;> simp only [Bool.false_eq_true, ↓reduceIte] <;> split_ifs <;> rfl

/-- the rows and the propensities of one lineage iteration are computed from the rule-updated state: the row written
for the grid times just passed is the state after the repeated rules of this iteration. -/
theorem cell_rows_see_ruled_state (times : List α) (s : CellLoop σ α) (pre : CellPre σ α) (tm : CellTiming σ α) :
    (cellRecorded times s pre tm).results
      = writeRows s.results s.idx (recordCount tm.tNew (times.drop s.idx)) (pre.x, s.vol) := rfl

/-- the state the lineage loop's rules see is the rule pass of this iteration with the grid step as `dt`
(`interface.set_dt(delta_t)`), evaluated at the cell's current volume and time. -/
theorem cellPre_rules (g : Gen σ α) (m : CellModel α) (dt t0 v0 : α) (s : CellLoop σ α) :
    ((cellPre g m dt t0 v0 s).x, (cellPre g m dt t0 v0 s).p) = applyRules m.rules s.x s.p s.vol s.t dt s.ruleStep := by
  unfold cellPre
  simp only

/-! ### Non-vacuity: a two-rule chain in dependency order -/

/-- `B := A + A`, then `C := B` — as state transformers (the second reads what the first writes). -/
example : DepOrdered (α := ℚ)
    [fun s => (s.1.set 1 (vecGet s.1 0 + vecGet s.1 0), s.2),
     fun s => (s.1.set 2 (vecGet s.1 1), s.2)] := by
  refine ⟨?_, ?_, ?_, ?_, trivial⟩
  · intro s; simp [Holds, vecGet]
  · intro h hh s hs
    simp only [List.mem_singleton] at hh
    subst hh
    unfold Holds at hs ⊢
    obtain ⟨x, p⟩ := s
    simp only [Prod.mk.injEq, and_true] at hs ⊢
    match x, hs with
    | [], _ => simp [vecGet]
    | [a], _ => simp [vecGet]
    | [a, b], hs => simp [vecGet, List.set] at hs ⊢; exact hs
    | a :: b :: c :: l, hs => simp [vecGet, List.set] at hs ⊢; exact hs
  · intro s; simp [Holds, vecGet]
  · intro h hh; simp at hh

/-! ### The delay+volume loop: rule steps are volume ticks -/

theorem dv_rstep_iff_tick (g : Gen σ α) (m : SimModel α) (times : List α) (s : LoopState σ α) :
    (dvDecide g m times s).rstep = true ↔ (dvDecide g m times s).stepType = 1 := by
  rcases dvDecide_cases g m times s with ⟨-, h0 | h0, -, -, hr⟩ | ⟨-, -, h1, -, -, hr⟩ | ⟨-, -, h2, -, -, hr⟩ <;>
    simp [hr, ‹(dvDecide g m times s).stepType = _›]

/-- **delay+volume: a `dt` rule (or ODE rule) runs exactly once per volume tick, however many reactions fire**: an
iteration leaves the rule-step flag set only when it was a tick — time moved to the tick and the tick clock advanced by
one `dt` -/
theorem delayVolume_ruleStep_tick (g : Gen σ α) (m : SimModel α) (vm : VolModel α) (times : List α) (s : LoopState σ α)
    (h : (delayVolumeIter g m vm times s).ruleStep = true) :
    (delayVolumeIter g m vm times s).t = s.nextTick ∧ (delayVolumeIter g m vm times s).nextTick = s.nextTick + m.dt := by
  unfold delayVolumeIter at h ⊢
  obtain ⟨-, ht, -, hrs, hnt, -⟩ := dvApply_frame g m vm times s (dvDecide g m times s)
  rw [hrs] at h
  rw [ht, hnt]
  rcases dvDecide_cases g m times s with ⟨-, -, -, -, hr⟩ | ⟨-, -, -, h1, h2, -⟩ | ⟨-, -, -, -, -, hr⟩
  · rw [hr] at h; cases h
  · exact ⟨h1, h2⟩
  · rw [hr] at h; cases h

/-- … and any other iteration (a firing, a delivery from the queue, a move to the requested time) leaves the flag unset
and the tick clock where it was. -/
theorem delayVolume_no_ruleStep (g : Gen σ α) (m : SimModel α) (vm : VolModel α) (times : List α) (s : LoopState σ α)
    (h : (delayVolumeIter g m vm times s).ruleStep = false) :
    (delayVolumeIter g m vm times s).nextTick = s.nextTick := by
  unfold delayVolumeIter at h ⊢
  obtain ⟨-, -, -, hrs, hnt, -⟩ := dvApply_frame g m vm times s (dvDecide g m times s)
  rw [hrs] at h
  rw [hnt]
  rcases dvDecide_cases g m times s with ⟨-, -, -, h2, -⟩ | ⟨-, -, -, -, -, hr⟩ | ⟨-, -, -, -, h2, -⟩
  · exact h2
  · rw [hr] at h; cases h
  · exact h2

/-- the rows a delay+volume iteration writes are the state after the rule pass of that iteration (rules see the current
volume), before any firing or delivery. -/
theorem delayVolume_rows_see_ruled_state (g : Gen σ α) (m : SimModel α) (vm : VolModel α) (times : List α)
    (s : LoopState σ α) :
    ∃ k, (delayVolumeIter g m vm times s).rows
        = s.rows ++ replicateRow k (applyRules m.rules s.x s.p s.vol s.t m.dt s.ruleStep).1 :=
  ⟨_, (dvApply_frame g m vm times s (dvDecide g m times s)).1.1⟩

end Bioscrape.C09
